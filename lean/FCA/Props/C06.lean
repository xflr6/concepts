import FCA.Proofs.LatticeSpec
import FCA.Model.Misc
import FCA.Proofs.OrderSpec
/-
C06 — Canonical order: shortlex iteration, index/dindex ranks, bottom first, top last.

`L = mkLattice K` is the list of concepts in iteration order; neighbor references are positions in `L`.
-/
namespace FCA

/-- the numeric sort key `(count, reinverted)` of the code realises the documented shortlex order -/
theorem C06_key_is_shortlex {w a b : Nat} (ha : Bounded w a) (hb : Bounded w b) :
    shortlexKey w a < shortlexKey w b ↔ shortlexLt w a b := shortlexKey_lt_iff ha hb

/-- the numeric sort key `(-count, reinverted)` realises the documented longlex order -/
theorem C06_key_is_longlex {w a b : Nat} (ha : Bounded w a) (hb : Bounded w b) :
    longlexKey w a < longlexKey w b ↔ longlexLt w a b := longlexKey_lt_iff ha hb

example : shortlexLt 3 0b100 0b011 := Or.inl (by decide)
example : shortlexLt 3 0b011 0b101 :=
  Or.inr ⟨by decide, 1, by decide, by decide, fun k hk => by interval_cases k; decide⟩
example : longlexLt 3 0b011 0b100 := Or.inl (by decide)
example : Bounded 3 0b011 ∧ Bounded 3 0b101 := ⟨bounded_iff_lt.mpr (by decide), bounded_iff_lt.mpr (by decide)⟩

/-- a strict order: nothing is before itself (so a `shortlexLt`-sorted list has no repeats) -/
theorem C06_shortlexLt_irrefl (w a : Nat) : ¬ shortlexLt w a a := shortlexLt_irrefl w a

/-- iterating the lattice visits the concepts in strictly increasing shortlex order of their extents
(numeric key form) -/
theorem C06_iter_shortlex_key (K : Ctx) (h : K.WF) :
    ((mkLattice K).map (·.extent)).Pairwise (fun a b => shortlexKey K.n a < shortlexKey K.n b) :=
  (mkLattice_spec h).sorted

/-- iterating the lattice visits the concepts in (strict) short-lexicographic order of their extents:
fewer objects first, ties by object position in the context -/
theorem C06_iter_shortlex (K : Ctx) (h : K.WF) :
    ((mkLattice K).map (·.extent)).Pairwise (shortlexLt K.n) := by
  have S := mkLattice_spec h
  refine List.Pairwise.imp_of_mem ?_ S.sorted
  intro a b ha hb hab
  exact (C06_key_is_shortlex ((S.mem a).mp ha).1 ((S.mem b).mp hb).1).mp hab

/-- and the iteration is complete and duplicate free: the extents visited are exactly the closed sets -/
theorem C06_iter_members (K : Ctx) (h : K.WF) (x : Nat) :
    x ∈ (mkLattice K).map (·.extent) ↔ closedObj K x := (mkLattice_spec h).mem x

/-- `concept.index` is the position in iteration (= shortlex) order -/
theorem C06_index (K : Ctx) (h : K.WF) {k : Nat} {c : LConcept} (hc : (mkLattice K)[k]? = some c) :
    c.index = k := (mkLattice_spec h).index hc

/-- hence `index` order is shortlex order of the extents -/
theorem C06_index_order (K : Ctx) (h : K.WF) {c d : LConcept} (hc : c ∈ mkLattice K) (hd : d ∈ mkLattice K) :
    c.index < d.index ↔ shortlexLt K.n c.extent d.extent := by
  have S := mkLattice_spec h
  rw [S.pos_lt_iff (S.get_index hc) (S.get_index hd), C06_key_is_shortlex (S.closed_of_mem hc).1 (S.closed_of_mem hd).1]

/-- `concept.dindex` = number of concepts that come strictly before it in longlex order -/
theorem C06_dindex (K : Ctx) (h : K.WF) {k : Nat} {c : LConcept} (hc : (mkLattice K)[k]? = some c) :
    c.dindex = (mkLattice K).countP (fun d => decide (longlexKey K.n d.extent < longlexKey K.n c.extent)) :=
  (mkLattice_spec h).dindex_eq_count hc

/-- `dindex` order is long-lexicographic order of the extents (more objects first, ties by position) -/
theorem C06_dindex_order (K : Ctx) (h : K.WF) {c d : LConcept} (hc : c ∈ mkLattice K) (hd : d ∈ mkLattice K) :
    c.dindex < d.dindex ↔ longlexLt K.n c.extent d.extent := by
  have S := mkLattice_spec h
  rw [← S.dindex_lt_iff (S.get_index hc) (S.get_index hd), C06_key_is_longlex (S.closed_of_mem hc).1 (S.closed_of_mem hd).1]

/-- `dindex` is a rank: a bijection between the concepts and `0 .. len-1` -/
theorem C06_dindex_bijective (K : Ctx) (h : K.WF) :
    (∀ c ∈ mkLattice K, c.dindex < (mkLattice K).length) ∧
    (∀ c ∈ mkLattice K, ∀ d ∈ mkLattice K, c.dindex = d.dindex → c = d) ∧
    (∀ i, i < (mkLattice K).length → ∃ c ∈ mkLattice K, c.dindex = i) := by
  have S := mkLattice_spec h
  refine ⟨fun c hc => S.dindex_lt (S.get_index hc), fun c hc d hd he => ?_, fun i hi => ?_⟩
  · exact S.eq_of_index_eq hc hd (S.dindex_inj (S.get_index hc) (S.get_index hd) he)
  · obtain ⟨k, c, hk, hd⟩ := S.dindex_surj hi
    exact ⟨c, List.mem_of_getElem? hk, hd⟩

/-- `index` likewise: positions `0 .. len-1`, pairwise different -/
theorem C06_index_bijective (K : Ctx) (h : K.WF) :
    (mkLattice K).map (·.index) = List.range (mkLattice K).length :=
  (mkLattice_spec h).map_index

/-- both orders are linear extensions of the lattice order (resp. its dual): a concept with a
properly smaller extent has the smaller `index` and the larger `dindex` -/
theorem C06_linear_extension (K : Ctx) (h : K.WF) {c d : LConcept} (hc : c ∈ mkLattice K) (hd : d ∈ mkLattice K)
    (hs : c.extent ⊆ᵇ d.extent) (hne : c.extent ≠ d.extent) : c.index < d.index ∧ d.dindex < c.dindex := by
  have S := mkLattice_spec h
  exact ⟨S.pos_lt_of_ssub (S.get_index hc) (S.get_index hd) hs hne,
    S.dindex_lt_of_ssub (S.get_index hc) (S.get_index hd) hs hne⟩

/-- `lattice.infimum` (the concept of the empty object set, `mapping[∅'']`) is the first concept and the
least one -/
theorem C06_infimum (K : Ctx) (h : K.WF) :
    ∃ c, (mkLattice K)[0]? = some c ∧ c.extent = K.doubleObj 0 ∧ c.index = 0 ∧
      (mkLattice K).find (K.doubleObj 0) = some 0 ∧
      ∀ d ∈ mkLattice K, c.extent ⊆ᵇ d.extent := by
  have S := mkLattice_spec h
  obtain ⟨c, hc, he⟩ := S.get_zero
  exact ⟨c, hc, he, S.index hc, he ▸ S.find_get hc, fun d hd => he ▸ bot_least (S.closed_of_mem hd)⟩

/-- `lattice.supremum` (the concept of all objects) is the last concept and the greatest one -/
theorem C06_supremum (K : Ctx) (h : K.WF) :
    ∃ c, (mkLattice K).getLast? = some c ∧ (mkLattice K)[(mkLattice K).length - 1]? = some c ∧
      c.extent = full K.n ∧ c.index = (mkLattice K).length - 1 ∧ c.dindex = 0 ∧
      ∀ d ∈ mkLattice K, d.extent ⊆ᵇ c.extent := by
  have S := mkLattice_spec h
  obtain ⟨c, hc, he⟩ := S.get_last
  have hall : ∀ d ∈ mkLattice K, d.extent ⊆ᵇ c.extent := fun d hd =>
    he ▸ bounded_iff_sub_full.mp (S.closed_of_mem hd).1
  -- the concept of rank 0 lies below the top, whose rank is then no larger
  obtain ⟨k, d, hk, hd⟩ := S.dindex_surj S.length_pos
  exact ⟨c, by rw [List.getLast?_eq_getElem?, hc], hc, he, S.index hc,
    Nat.le_zero.mp (hd ▸ S.dindex_le_of_sub hk hc (hall d (List.mem_of_getElem? hk))), hall⟩

/-- the infimum has `dindex = len - 1` (it is last in longlex order) -/
theorem C06_infimum_dindex (K : Ctx) (h : K.WF) {c : LConcept} (hc : (mkLattice K)[0]? = some c) :
    c.dindex = (mkLattice K).length - 1 := by
  have S := mkLattice_spec h
  -- the concept of rank `len - 1` lies above the infimum, whose rank is then no smaller
  obtain ⟨k, d, hk, hd⟩ := S.dindex_surj (Nat.sub_one_lt (Nat.ne_of_gt S.length_pos))
  have hsub : c.extent ⊆ᵇ d.extent :=
    (Lattice.extentAt_get hc ▸ S.extentAt_zero : c.extent = K.doubleObj 0) ▸ bot_least (S.closed hk)
  exact Nat.le_antisymm (Nat.le_sub_one_of_lt (S.dindex_lt hc)) (hd ▸ S.dindex_le_of_sub hc hk hsub)

/-- `lattice.atoms` (= `infimum.upper_neighbors`): exactly the upper covers of the infimum, each once,
in shortlex order -/
theorem C06_atoms (K : Ctx) (h : K.WF) :
    (∀ j, j ∈ (mkLattice K).upperAt 0 ↔
      ∃ d, (mkLattice K)[j]? = some d ∧ covers K (K.doubleObj 0) d.extent) ∧
    ((mkLattice K).upperAt 0).Nodup ∧ ((mkLattice K).upperAt 0).Pairwise (· < ·) := by
  have S := mkLattice_spec h
  obtain ⟨c0, h0, he⟩ := S.get_zero
  rw [Lattice.upperAt_get h0, ← he]
  exact ⟨S.mem_upper_iff h0, S.upper_nodup h0, S.upper_sorted h0⟩

/-- `concept.atoms`: the atoms of the lattice below the concept -/
theorem C06_concept_atoms (K : Ctx) (h : K.WF) {k : Nat} {c : LConcept} (hc : (mkLattice K)[k]? = some c) (a : Nat) :
    a ∈ c.atoms ↔ ∃ d, (mkLattice K)[a]? = some d ∧ covers K (K.doubleObj 0) d.extent ∧ d.extent ⊆ᵇ c.extent :=
  (mkLattice_spec h).mem_atoms hc a

/-- `lattice.infimum` is element 0, `lattice.supremum` element -1, `lattice.atoms` the upper neighbors of the
infimum (`Lattice.infimum/supremum/atomsOf` in the model are these accessors); with `C06_infimum`,
`C06_supremum`, `C06_atoms` they are the least concept, the greatest concept and the upper covers of the least -/
theorem C06_accessors (K : Ctx) (h : K.WF) :
    (∃ c, (mkLattice K).infimum = some c ∧ c.extent = K.doubleObj 0 ∧ ∀ d ∈ mkLattice K, c.extent ⊆ᵇ d.extent) ∧
    (∃ c, (mkLattice K).supremum = some c ∧ c.extent = full K.n ∧ ∀ d ∈ mkLattice K, d.extent ⊆ᵇ c.extent) ∧
    (∀ j, j ∈ (mkLattice K).atomsOf ↔ ∃ d, (mkLattice K)[j]? = some d ∧ covers K (K.doubleObj 0) d.extent) := by
  obtain ⟨c, hc, he, _, _, hle⟩ := C06_infimum K h
  obtain ⟨t, _, ht, hte, _, _, hge⟩ := C06_supremum K h
  exact ⟨⟨c, hc, he, hle⟩, ⟨t, ht, hte, hge⟩, (C06_atoms K h).1⟩

/-- every `upper_neighbors` tuple is in shortlex order (and consists of the upper covers, each once) -/
theorem C06_upper_sorted (K : Ctx) (h : K.WF) {k : Nat} {c : LConcept} (hc : (mkLattice K)[k]? = some c) :
    c.upper.Pairwise (fun a b => shortlexLt K.n ((mkLattice K).extentAt a) ((mkLattice K).extentAt b)) ∧
    c.upper.Pairwise (· < ·) ∧
    ∀ j, j ∈ c.upper ↔ ∃ d, (mkLattice K)[j]? = some d ∧ covers K c.extent d.extent := by
  have S := mkLattice_spec h
  refine ⟨(S.upper_shortlex hc).imp fun {a b} hab => ?_, S.upper_sorted hc, S.mem_upper_iff hc⟩
  rw [← Lattice.extentAt_eq_getD, ← Lattice.extentAt_eq_getD] at hab
  exact (C06_key_is_shortlex (S.extentAt_bounded a) (S.extentAt_bounded b)).mp hab

/-- every `lower_neighbors` tuple is in longlex order (and consists of the lower covers, each once) -/
theorem C06_lower_sorted (K : Ctx) (h : K.WF) {k : Nat} {c : LConcept} (hc : (mkLattice K)[k]? = some c) :
    c.lower.Pairwise (fun a b => longlexLt K.n ((mkLattice K).extentAt a) ((mkLattice K).extentAt b)) ∧
    c.lower.Pairwise (fun a b => (mkLattice K).dindexAt a < (mkLattice K).dindexAt b) ∧
    c.lower.Nodup ∧
    ∀ j, j ∈ c.lower ↔ ∃ d, (mkLattice K)[j]? = some d ∧ covers K d.extent c.extent := by
  have S := mkLattice_spec h
  refine ⟨(S.lower_sorted hc).imp fun {a b} hab => ?_, (S.lower_sorted hc).imp_of_mem fun {a b} ha hb hab => ?_,
    S.lower_nodup hc, S.mem_lower_iff hc⟩
  · rw [← Lattice.extentAt_eq_getD, ← Lattice.extentAt_eq_getD] at hab
    exact (C06_key_is_longlex (S.extentAt_bounded a) (S.extentAt_bounded b)).mp hab
  · obtain ⟨d, hd, _⟩ := S.lower_get hc ha
    obtain ⟨d', hd', _⟩ := S.lower_get hc hb
    rw [S.getD_extent hd, S.getD_extent hd'] at hab
    rw [Lattice.dindexAt_get hd, Lattice.dindexAt_get hd']
    exact (S.dindex_lt_iff hd hd').mp hab

/-! ### a concrete instance (non-vacuity): objects `0,1,2`, rows `{p0,p1}`, `{p0}`, `{p1,p2}` -/

def C06_exK : Ctx := mkCtx 3 3 #[0b011, 0b001, 0b110]
theorem C06_exK_WF : C06_exK.WF := mkCtx_WF rfl (by decide)
/-- extents in iteration order `∅, {0}, {2}, {0,1}, {0,2}, {0,1,2}` (note `{2}` before `{0,1}`: fewer objects
first, and `{0,1}` before `{0,2}`: first differing object decides) with `(extent, index, dindex)` -/
example : (mkLattice C06_exK).map (fun c => (c.extent, c.index, c.dindex)) =
    [(0, 0, 5), (1, 1, 3), (4, 2, 4), (3, 3, 1), (5, 4, 2), (7, 5, 0)] := by
  rw [C06_exK, exK_lattice]; decide +kernel

/-- `(extent, upper, lower, atoms)`; e.g. `{0,2}` has `lower = [1, 2]` (= `{0}`, `{2}`: longlex order) -/
example : (mkLattice C06_exK).map (fun c => (c.extent, c.upper, c.lower, c.atoms)) =
    [(0, [1, 2], [], []), (1, [3, 4], [0], [1]), (4, [4], [0], [2]), (3, [5], [1], [1]),
     (5, [5], [1, 2], [1, 2]), (7, [], [3, 4], [1, 2])] := by
  rw [C06_exK, exK_lattice]; decide +kernel

/-- hypotheses of `C06_linear_extension` are satisfiable: `{0} ⊊ {0,2}` at positions 1 and 4 -/
example : ((mkLattice C06_exK)[1]?.map (·.extent), (mkLattice C06_exK)[4]?.map (·.extent)) = (some 1, some 5) := by
  rw [C06_exK, exK_lattice]; decide +kernel

example : (1 : Nat) ⊆ᵇ 5 := and_eq_left_iff.mp (by decide)

end FCA
#print axioms FCA.C06_key_is_shortlex
#print axioms FCA.C06_key_is_longlex
#print axioms FCA.C06_iter_shortlex
#print axioms FCA.C06_index
#print axioms FCA.C06_index_order
#print axioms FCA.C06_index_bijective
#print axioms FCA.C06_dindex
#print axioms FCA.C06_dindex_order
#print axioms FCA.C06_dindex_bijective
#print axioms FCA.C06_linear_extension
#print axioms FCA.C06_infimum
#print axioms FCA.C06_infimum_dindex
#print axioms FCA.C06_supremum
#print axioms FCA.C06_atoms
#print axioms FCA.C06_concept_atoms
#print axioms FCA.C06_upper_sorted
#print axioms FCA.C06_lower_sorted
