import FCA.Props.C16
import FCA.Generated.Junctors
import FCA.Generated.RelationsInit
/-
C16 for the pattern / rank / kind table regenerated by harness/extract.py from the classes the
metaclass of the current `concepts/junctors.py` built (re-checked on every run), and for the parameters of
`Relations.__init__` (which class is paired, how many at a time, the sort attribute) read from the same source.
-/
namespace FCA

/-- the table in the source is well formed: looking up every pattern two contingent columns can produce finds
an entry with the documented kind and rank, pattern 11 finds `Replication`, … (`JTable.Good`) -/
theorem C16_generated_good : Generated.table.Good := by decide +kernel

/-- no pattern and no class name occurs twice in the source's table, so the first match the model takes
(`find?`) and the last match a Python dict keeps agree -/
theorem C16_generated_nodup : Generated.table.NoDupPatterns ∧ Generated.table.NoDupNames := by decide +kernel

/-- `Relation(l, r, pairs)` of a replication pattern still yields `Implication(r, l)` -/
theorem C16_generated_swap : Generated.replicationSwaps = true := by decide

/-- so every theorem of C16 holds for the source's table; in particular classification is total and
unique for contingent columns, and the relations list is the one the pinned table gives -/
theorem C16_generated_classify (n l r cl cr : Nat) (hl : Bounded n cl) (hr : Bounded n cr)
    (hcl : unaryCode n cl = 3) (hcr : unaryCode n cr = 3) :
    classifyBinary Generated.table n l r cl cr = classifyBinary pinnedTable n l r cl cr := by
  rw [C16_classify_total C16_generated_good hl hr hcl hcr, C16_classify_total C16_table_good hl hr hcl hcr]

theorem C16_generated_relations (K : Ctx) (hK : K.WF) (hn : 0 < K.n) (iu : Bool) :
    relations Generated.table K iu = relations pinnedTable K iu := by
  rw [relations_eq C16_generated_good hK hn, relations_eq C16_table_good hK hn]

/-- `Relations.__init__` with the class whose items are paired, the pair size and the sort attribute looked up in a configuration
(`none` for a configuration the model has no reading for) -/
def C16_relationsCfg (T : JTable) (K : Ctx) (includeUnary : Bool) (cfg : String × Nat × String) : Option (List RelItem) :=
  if cfg.2.1 = 2 ∧ cfg.2.2 = "order" then
    let unary := (List.range K.m).filterMap fun p => classifyUnary T K.n p (K.cols[p]!)
    let chosen := unary.filterMap fun (e, it) => if e.name == cfg.1 then some it.left else none
    let binary := (combos2 chosen).filterMap fun (l, r) => classifyBinary T K.n l r (K.cols[l]!) (K.cols[r]!)
    some (sortRel ((if includeUnary then unary.map (·.2) else []) ++ binary))
  else none

/-- the constructor of the current source pairs the items of the `Contingency` relations, two at a time, and sorts the *whole* list
by `order`: it is the model's `relations` (for the table of the current source, too) -/
theorem C16_generated_init (T : JTable) (K : Ctx) (iu : Bool) :
    C16_relationsCfg T K iu Generated.relations_init_cfg = some (relations T K iu) :=
  if_pos (by decide)

end FCA
#print axioms FCA.C16_generated_good
#print axioms FCA.C16_generated_relations
#print axioms FCA.C16_generated_init
