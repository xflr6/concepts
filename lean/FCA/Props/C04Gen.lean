import FCA.Generated.Fcbo
import FCA.Proofs.FcboInner
/-
C04 over the regenerated source: the bodies of the inner `for j, j_x in reversed(j_atom[index:])` loops of
`fast_generate_from` and `fcbo_dual`, as translated from the current `fcbo.py` by harness/extract.py and folded
over the candidate indices, are the model's `fcboInner` for the two sides — so `C04_*` (proved about `fcboInner` /
`fcboNode`) speak about the loop bodies the source has now.
-/
namespace FCA

/-- pushed stack entry `((extent, intent), j + 1)` of `fast_generate_from` as a model child -/
def pushedByIntent (x : (Nat × Nat) × Nat) : Nat × FNode := (x.2 - 1, ⟨x.1.2, x.1.1⟩)
/-- pushed stack entry `((extent, intent), j + 1)` of `fcbo_dual` as a model child -/
def pushedByExtent (x : (Nat × Nat) × Nat) : Nat × FNode := (x.2 - 1, ⟨x.1.1, x.1.2⟩)

/-- a model child as the stack entry `((extent, intent), j + 1)` that `fast_generate_from` pushes -/
def entryByIntent (c : Nat × FNode) : (Nat × Nat) × Nat := ((c.2.other, c.2.own), c.1 + 1)
/-- a model child as the stack entry that `fcbo_dual` pushes -/
def entryByExtent (c : Nat × FNode) : (Nat × Nat) × Nat := ((c.2.own, c.2.other), c.1 + 1)

/-- the regenerated body of `fast_generate_from` is one `fcboStep`, the pushed child written as a stack entry -/
theorem C04_generated_fcbo_step (S : Side) (nd : FNode) (j : Nat) (sets : Array Nat) (out : List ((Nat × Nat) × Nat)) :
    Generated.fast_generate_from_body S.col S.prime nd.other nd.own j (2 ^ j) sets out =
      ((fcboStep S nd sets j).1, ((fcboStep S nd sets j).2.map entryByIntent).toList ++ out) := by
  have push := @apply_ite _ _ fun r : Array Nat × Option (Nat × FNode) => (r.1, (r.2.map entryByIntent).toList ++ out)
  rw [Generated.fast_generate_from_body, fcboStep, push, push, push]
  rfl

theorem C04_generated_fcbo_dual_step (S : Side) (nd : FNode) (j : Nat) (sets : Array Nat) (out : List ((Nat × Nat) × Nat)) :
    Generated.fcbo_dual_body S.col S.prime nd.own nd.other j (2 ^ j) sets out =
      ((fcboStep S nd sets j).1, ((fcboStep S nd sets j).2.map entryByExtent).toList ++ out) := by
  have push := @apply_ite _ _ fun r : Array Nat × Option (Nat × FNode) => (r.1, (r.2.map entryByExtent).toList ++ out)
  rw [Generated.fcbo_dual_body, fcboStep, Nat.and_comm nd.own (2 ^ j), push, push, push]
  rfl

/-- a loop whose body is `fcboStep` up to the way a pushed child is written down (`f`, undone by `g`) is `fcboInner` -/
theorem fcboInner_eq_foldl {α : Type} (S : Side) (nd : FNode) (f : Nat × FNode → α) (g : α → Nat × FNode)
    (hgf : ∀ c, g (f c) = c) (body : Nat → Array Nat → List α → Array Nat × List α)
    (hbody : ∀ j sets out, body j sets out = ((fcboStep S nd sets j).1, ((fcboStep S nd sets j).2.map f).toList ++ out))
    (js : List Nat) (sets : Array Nat) (out : List α) :
    fcboInner S nd js sets (out.map g) =
      (let r := js.foldl (fun s j => body j s.1 s.2) (sets, out)
       ((r.2.map g).reverse, r.1)) := by
  induction js generalizing sets out with
  | nil => simp [fcboInner]
  | cons j js ih =>
    rw [fcboInner_cons, List.foldl_cons, hbody, ← ih]
    cases (fcboStep S nd sets j).2 <;> simp [hgf]

theorem C04_generated_fcbo_inner (S : Side) (nd : FNode) (js : List Nat) (sets : Array Nat)
    (out : List ((Nat × Nat) × Nat)) :
    fcboInner S nd js sets (out.map pushedByIntent) =
      (let r := js.foldl (fun s j => Generated.fast_generate_from_body S.col S.prime nd.other nd.own j (2 ^ j) s.1 s.2)
        (sets, out)
       ((r.2.map pushedByIntent).reverse, r.1)) :=
  fcboInner_eq_foldl S nd entryByIntent pushedByIntent (fun _ => rfl) _ (C04_generated_fcbo_step S nd) js sets out

theorem C04_generated_fcbo_dual_inner (S : Side) (nd : FNode) (js : List Nat) (sets : Array Nat)
    (out : List ((Nat × Nat) × Nat)) :
    fcboInner S nd js sets (out.map pushedByExtent) =
      (let r := js.foldl (fun s j => Generated.fcbo_dual_body S.col S.prime nd.own nd.other j (2 ^ j) s.1 s.2)
        (sets, out)
       ((r.2.map pushedByExtent).reverse, r.1)) :=
  fcboInner_eq_foldl S nd entryByExtent pushedByExtent (fun _ => rfl) _ (C04_generated_fcbo_dual_step S nd) js sets out

end FCA
#print axioms FCA.C04_generated_fcbo_step
#print axioms FCA.C04_generated_fcbo_dual_step
#print axioms FCA.C04_generated_fcbo_inner
#print axioms FCA.C04_generated_fcbo_dual_inner
