import FCA.Proofs.Labels
/-
C10 — Reduced labelling (`Lattice._annotate`, `Concept.objects` / `.properties` / `.atoms`):

For any (well-formed) context each object `o` appears in the `objects` label of exactly one concept of
`Context.lattice`, the object concept `(o'', o')`, and each property `p` in the `properties` label of
exactly one concept, the attribute concept `(p', p'')`; inside a label the members are in context order.
Consequently the extent of a concept is the union of the object labels in its downset, its intent the
union of the property labels in its upset, and `concept.atoms` lists exactly the lattice atoms below or
equal to the concept.

Objects and properties are numbers (their positions in the context), concepts are referred to by
membership in / position in `mkLattice K`; `i ∈ᵇ s` is membership in a bit mask.
-/
namespace FCA

/-- `o` is in the `objects` label of `c` iff `c` is the object concept of `o`: extent `{o}''` -/
theorem C10_object_label {K : Ctx} (hK : K.WF) {c : LConcept} (hc : c ∈ mkLattice K) (o : Nat) :
    o ∈ c.objects ↔ o < K.n ∧ c.extent = K.doubleObj (2 ^ o) :=
  (C10.objects_labelling (mkLattice_spec hK)).mem hc

/-- ... i.e. `c = (o'', o')` -/
theorem C10_object_label_concept {K : Ctx} (hK : K.WF) {c : LConcept} (hc : c ∈ mkLattice K) (o : Nat) :
    o ∈ c.objects ↔ o < K.n ∧ c.extent = K.extentOf (K.intentOf (2 ^ o)) ∧ c.intent = K.intentOf (2 ^ o) := by
  rw [C10_object_label hK hc]
  refine and_congr_right fun ho => ⟨fun he => ⟨he, ?_⟩, And.left⟩
  rw [(mkLattice_spec hK).intent_of_mem hc, he]
  exact intent_extent_intent hK (bounded_pow ho)

/-- a label lists its objects in context order (in particular without repetition) -/
theorem C10_object_sorted {K : Ctx} (hK : K.WF) {c : LConcept} (hc : c ∈ mkLattice K) :
    c.objects.Pairwise (· < ·) :=
  (C10.objects_labelling (mkLattice_spec hK)).sorted hc

/-- every object labels exactly one concept: there is one and any two are equal ... -/
theorem C10_object_unique {K : Ctx} (hK : K.WF) {o : Nat} (ho : o < K.n) :
    ∃! c, c ∈ mkLattice K ∧ o ∈ c.objects :=
  (C10.objects_labelling (mkLattice_spec hK)).unique ho

/-- ... and it occurs once in the list of concepts -/
theorem C10_object_unique_count {K : Ctx} (hK : K.WF) {o : Nat} (ho : o < K.n) :
    (mkLattice K).countP (fun c => decide (o ∈ c.objects)) = 1 :=
  (C10.objects_labelling (mkLattice_spec hK)).count ho

/-- the object labels, concatenated in concept order, are a rearrangement of all objects -/
theorem C10_object_partition {K : Ctx} (hK : K.WF) :
    ((mkLattice K).flatMap (·.objects)).Perm (List.range K.n) :=
  (C10.objects_labelling (mkLattice_spec hK)).partition

/-- `p` is in the `properties` label of `c` iff `c` is the attribute concept of `p`: extent `{p}'` -/
theorem C10_property_label {K : Ctx} (hK : K.WF) {c : LConcept} (hc : c ∈ mkLattice K) (p : Nat) :
    p ∈ c.properties ↔ p < K.m ∧ c.extent = K.extentOf (2 ^ p) :=
  (C10.properties_labelling (mkLattice_spec hK)).mem hc

/-- ... i.e. `c = (p', p'')` -/
theorem C10_property_label_concept {K : Ctx} (hK : K.WF) {c : LConcept} (hc : c ∈ mkLattice K) (p : Nat) :
    p ∈ c.properties ↔ p < K.m ∧ c.extent = K.extentOf (2 ^ p) ∧ c.intent = K.intentOf (K.extentOf (2 ^ p)) := by
  rw [C10_property_label hK hc]
  refine and_congr_right fun _ => ⟨fun he => ⟨he, ?_⟩, And.left⟩
  rw [(mkLattice_spec hK).intent_of_mem hc, he]

theorem C10_property_sorted {K : Ctx} (hK : K.WF) {c : LConcept} (hc : c ∈ mkLattice K) :
    c.properties.Pairwise (· < ·) :=
  (C10.properties_labelling (mkLattice_spec hK)).sorted hc

theorem C10_property_unique {K : Ctx} (hK : K.WF) {p : Nat} (hp : p < K.m) :
    ∃! c, c ∈ mkLattice K ∧ p ∈ c.properties :=
  (C10.properties_labelling (mkLattice_spec hK)).unique hp

theorem C10_property_unique_count {K : Ctx} (hK : K.WF) {p : Nat} (hp : p < K.m) :
    (mkLattice K).countP (fun c => decide (p ∈ c.properties)) = 1 :=
  (C10.properties_labelling (mkLattice_spec hK)).count hp

theorem C10_property_partition {K : Ctx} (hK : K.WF) :
    ((mkLattice K).flatMap (·.properties)).Perm (List.range K.m) :=
  (C10.properties_labelling (mkLattice_spec hK)).partition

/-- the extent of a concept is the union of the object labels in its downset -/
theorem C10_extent_from_labels {K : Ctx} (hK : K.WF) {c : LConcept} (hc : c ∈ mkLattice K) (i : Nat) :
    i ∈ᵇ c.extent ↔ ∃ d ∈ mkLattice K, d.extent ⊆ᵇ c.extent ∧ i ∈ d.objects :=
  C10.extent_from_labels (mkLattice_spec hK) hc i

/-- the intent of a concept is the union of the property labels in its upset -/
theorem C10_intent_from_labels {K : Ctx} (hK : K.WF) {c : LConcept} (hc : c ∈ mkLattice K) (j : Nat) :
    j ∈ᵇ c.intent ↔ ∃ d ∈ mkLattice K, c.extent ⊆ᵇ d.extent ∧ j ∈ d.properties :=
  C10.intent_from_labels (mkLattice_spec hK) hc j

/-- `concept.atoms` (as positions): exactly the upper covers of the infimum (extent `∅''`, the first
concept) that are below or equal to the concept -/
theorem C10_atoms {K : Ctx} (hK : K.WF) {k : Nat} {c : LConcept} (hc : (mkLattice K)[k]? = some c) (a : Nat) :
    a ∈ c.atoms ↔ ∃ d, (mkLattice K)[a]? = some d ∧ covers K (K.doubleObj 0) d.extent ∧ d.extent ⊆ᵇ c.extent :=
  (mkLattice_spec hK).mem_atoms hc a

/-- ... where the infimum is the first concept -/
theorem C10_infimum {K : Ctx} (hK : K.WF) :
    ∃ c0, (mkLattice K)[0]? = some c0 ∧ c0.extent = K.doubleObj 0 ∧ ∀ d ∈ mkLattice K, c0.extent ⊆ᵇ d.extent := by
  have S := mkLattice_spec hK
  obtain ⟨c0, h0, he⟩ := S.get_zero
  exact ⟨c0, h0, he, fun d hd => he ▸ bot_least (S.closed_of_mem hd)⟩

/-- atoms are listed in iteration order (strictly increasing index), hence once each -/
theorem C10_atoms_sorted {K : Ctx} (hK : K.WF) {k : Nat} {c : LConcept} (hc : (mkLattice K)[k]? = some c) :
    c.atoms.Pairwise (· < ·) :=
  C10.atoms_sorted (mkLattice_spec hK) hc

/-- the labels are order-preserving filters of the context's objects / properties: no enumeration
order of a `set` enters -/
theorem C10_touched_order_irrelevant {K : Ctx} (hK : K.WF) {c : LConcept} (hc : c ∈ mkLattice K) :
    c.objects = (List.range K.n).filter (fun o => K.doubleObj (2 ^ o) == c.extent) ∧
    c.properties = (List.range K.m).filter (fun p => K.extentOf (2 ^ p) == c.extent) :=
  ⟨(C10.objects_labelling (mkLattice_spec hK)).eq c hc, (C10.properties_labelling (mkLattice_spec hK)).eq c hc⟩

/-- the imperative loop of `_annotate` (`C10.annotateLoop`: append `o` to the label of
`mapping[extent]`, remember first-time concepts in `touched`; then `C10.tupleize`: convert the labels of
the `touched` concepts in *any* enumeration `order`) produces the model's label of every concept,
and `touched` holds exactly the concepts with a non-empty label -/
theorem C10_annotate_loop_objects {K : Ctx} (hK : K.WF) {k : Nat} {c : LConcept}
    (hc : (mkLattice K)[k]? = some c) :
    let st := C10.annotateLoop (fun o => (mkLattice K).find (K.doubleObj (2 ^ o))) (List.range K.n)
    (∀ order : List Nat, C10.tupleize order st.label k = c.objects) ∧ (k ∈ st.touched ↔ c.objects ≠ []) :=
  (C10.objects_labelling (mkLattice_spec hK)).annotate hc

theorem C10_annotate_loop_properties {K : Ctx} (hK : K.WF) {k : Nat} {c : LConcept}
    (hc : (mkLattice K)[k]? = some c) :
    let st := C10.annotateLoop (fun p => (mkLattice K).find (K.extentOf (2 ^ p))) (List.range K.m)
    (∀ order : List Nat, C10.tupleize order st.label k = c.properties) ∧ (k ∈ st.touched ↔ c.properties ≠ []) :=
  (C10.properties_labelling (mkLattice_spec hK)).annotate hc

/-! ### non-vacuity: a diamond with duplicate rows, a full row and a full column

objects `0 ↦ {0,1}`, `1 ↦ {0,2}`, `2 ↦ {0,2}`, `3 ↦ {0,1,2,3}`: object 3 labels the infimum, property 0
the supremum, objects 1 and 2 share a concept. -/

def C10_exK : Ctx := mkCtx 4 4 #[0b0011, 0b0101, 0b0101, 0b1111]

example : C10_exK.WF := mkCtx_WF rfl (by decide)

/-- the lattice of the example context, evaluated once for the examples here and in C20 -/
theorem C10S_exK_lattice : mkLattice C10_exK =
    [⟨8, 15, [1, 2], [], 0, 3, [], [3], [3]⟩, ⟨9, 3, [3], [0], 1, 2, [1], [0], [1]⟩,
     ⟨14, 5, [3], [0], 2, 1, [2], [1, 2], [2]⟩, ⟨15, 1, [], [2, 1], 3, 0, [1, 2], [], [0]⟩] := by decide +kernel

/-- (extent, intent, objects, properties, atoms) of the four concepts -/
example : (mkLattice C10_exK).map (fun c => (c.extent, c.intent, c.objects, c.properties, c.atoms)) =
    [(0b1000, 0b1111, [3], [3], []), (0b1001, 0b0011, [0], [1], [1]),
     (0b1110, 0b0101, [1, 2], [2], [2]), (0b1111, 0b0001, [], [0], [1, 2])] := by
  rw [C10S_exK_lattice]; decide +kernel
example : ∃ c ∈ mkLattice C10_exK, (1 : Nat) ∈ c.objects ∧ (2 : Nat) ∈ c.objects := by
  rw [C10S_exK_lattice]; decide +kernel
example : (3 : Nat) < C10_exK.n ∧ (3 : Nat) < C10_exK.m := by decide

/-- a context with an empty column (property 2) and no full row: the infimum `(∅, M)` carries a
property label only; the supremum carries nothing -/
def C10_exK2 : Ctx := mkCtx 2 3 #[0b001, 0b010]

example : C10_exK2.WF := mkCtx_WF rfl (by decide)
example : (mkLattice C10_exK2).map (fun c => (c.extent, c.intent, c.objects, c.properties, c.atoms)) =
    [(0b00, 0b111, [], [2], []), (0b01, 0b001, [0], [0], [1]),
     (0b10, 0b010, [1], [1], [2]), (0b11, 0b000, [], [], [1, 2])] := by decide +kernel

end FCA

#print axioms FCA.C10_object_label
#print axioms FCA.C10_object_label_concept
#print axioms FCA.C10_object_sorted
#print axioms FCA.C10_object_unique
#print axioms FCA.C10_object_unique_count
#print axioms FCA.C10_object_partition
#print axioms FCA.C10_property_label
#print axioms FCA.C10_property_label_concept
#print axioms FCA.C10_property_sorted
#print axioms FCA.C10_property_unique
#print axioms FCA.C10_property_unique_count
#print axioms FCA.C10_property_partition
#print axioms FCA.C10_extent_from_labels
#print axioms FCA.C10_intent_from_labels
#print axioms FCA.C10_atoms
#print axioms FCA.C10_infimum
#print axioms FCA.C10_atoms_sorted
#print axioms FCA.C10_touched_order_irrelevant
#print axioms FCA.C10_annotate_loop_objects
#print axioms FCA.C10_annotate_loop_properties
