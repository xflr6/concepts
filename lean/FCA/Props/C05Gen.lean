import FCA.Props.C03Gen
import FCA.Props.C05
import FCA.Props.C02Gen
/-
C05 over the regenerated source: the covers theorem restated for the loop body that the current `lindig.py` has,
and `Context.neighbors` of the current `contexts.py` read as the model's `contextNeighbors`.
-/
namespace FCA

/-- `lindig.neighbors(extent)` as the current source computes it -/
def generatedNeighbors (K : Ctx) (objects : Nat) : List (Nat × Nat) :=
  (((membersW K.n (andNot (full K.n) objects)).foldl
    (fun s g => Generated.neighbors_body K.dpObj objects (2 ^ g) s.1 s.2)
    (andNot (full K.n) objects, [])).2).reverse

/-- folding the regenerated loop body from a closed extent yields each upper cover exactly once, as a formal
concept: the last clause of C05 for the code as it is now -/
theorem C05_generated_neighbors_covers (K : Ctx) (h : K.WF) (A : Nat) (hA : Bounded K.n A) :
    ((generatedNeighbors K (K.doubleObj A)).map Prod.fst).Nodup ∧
    (∀ D, D ∈ (generatedNeighbors K (K.doubleObj A)).map Prod.fst ↔ covers K (K.doubleObj A) D) ∧
    (∀ p ∈ generatedNeighbors K (K.doubleObj A), isConcept K p.1 p.2) := by
  have e : generatedNeighbors K (K.doubleObj A) = contextNeighbors K A := by
    unfold generatedNeighbors contextNeighbors
    exact (C03_generated_neighbors K _).symm
  rw [e]
  exact C05_context_neighbors K h A hA

/-- `Context.neighbors(objects)` of the current source (labels resolved as objects, closed by `double`, then `lindig.neighbors`)
is the model's `contextNeighbors`, whose output `C05_context_neighbors` characterises as the upper covers -/
theorem C05_generated_context_neighbors (K : Ctx) (A : Nat) :
    (C02_deriveOfCfg K Generated.neighbors_cfg).map (fun cl => neighbors K (cl A)) = some (contextNeighbors K A) :=
  C02_generated_context_neighbors K A

end FCA
#print axioms FCA.C05_generated_neighbors_covers
#print axioms FCA.C05_generated_context_neighbors
