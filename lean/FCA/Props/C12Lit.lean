import FCA.Proofs.PyLiteralDoc

/-
Property C12 (python-literal format) — `FCA/Model/PyLiteral.lean`.
-/
namespace FCA

/-- `ast.literal_eval(repr(s)) == s` for every string (all code points) and every printability
table: the string-literal reader yields exactly `s` and consumes the whole text. -/
theorem C12_literal_repr_roundtrip (printable : Nat → Bool) (s : Str) :
    parseStrLit (pyReprStr printable s) = some (s, []) := by
  have := parseStrLit_repr printable s []
  rwa [List.append_nil] at this

/-- the same in front of any following text -/
theorem C12_literal_repr_roundtrip_append (printable : Nat → Bool) (s rest : Str) :
    parseStrLit (pyReprStr printable s ++ rest) = some (s, rest) :=
  parseStrLit_repr printable s rest

/-- `load_file(dump_file(doc)) == doc` for every document with at least one object and one
property (any names, any rows, with or without lattice). -/
theorem C12_literal_roundtrip_partial (printable : Nat → Bool) (d : LitDoc)
    (ho : d.objects ≠ []) (hp : d.properties ≠ []) :
    loadLiteral (dumpLiteral printable d) = some d := by
  rw [dumpLiteral_flat, loadLiteral_docText, litItems_fold]
  obtain ⟨o, p, c, l⟩ := d
  cases l <;> simp only [litItems, List.cons_append, List.nil_append, List.append_nil,
    List.forall_mem_cons, List.not_mem_nil, false_imp_iff, implies_true] <;>
    exact ⟨ho, hp, trivial, by trivial⟩

/-- The hypotheses of `C12_literal_roundtrip_partial` are necessary: for an empty names tuple
`dump_file` writes the line `    ,`, i.e. the display `(⏎    ,⏎  )`, which is a `SyntaxError` for
`ast.literal_eval` (the reader returns `none`). `Context` never has empty objects/properties. -/
theorem C12_literal_empty_names_rejected (printable : Nat → Bool) (d : LitDoc)
    (h : d.objects = [] ∨ d.properties = []) :
    loadLiteral (dumpLiteral printable d) = none := by
  rw [dumpLiteral_flat]
  by_cases ho : d.objects = []
  · exact loadLiteral_docText_rejected printable [] (.objects d.objects) _ (by simp) (not_not.mpr ho)
  · exact loadLiteral_docText_rejected printable [.objects d.objects] (.properties d.properties) _
      (by simpa [LitItem.Ok] using ho) (not_not.mpr (h.resolve_left ho))

/-! ### concrete instances (non-vacuity); the text is what `dump_file` writes for this document -/

/-- printability table for the example: only `é` of the code points ≥ 0x80 used is printable -/
def exPrintable (n : Nat) : Bool := n == 0xe9

def exDoc : LitDoc :=
  ⟨["it's".toList, "say \"hi\"".toList, "both ' and \"".toList, []],
   ["back\\slash".toList, "nl\nx".toList, "\x7f\x80é\t".toList],
   [[0, 1], [2], [], [1]], some [([], [0, 1, 2], [1], [])]⟩

def exText : Str :=
  unlines ["{".toList,
    "  'objects': (".toList,
    "    \"it's\", 'say \"hi\"', 'both \\' and \"', '',".toList,
    "  ),".toList,
    "  'properties': (".toList,
    "    'back\\\\slash', 'nl\\nx', '\\x7f\\x80é\\t',".toList,
    "  ),".toList,
    "  'context': [".toList,
    "    (0, 1),".toList,
    "    (2,),".toList,
    "    (),".toList,
    "    (1,),".toList,
    "  ],".toList,
    "  'lattice': [".toList,
    "    ((), (0, 1, 2), (1,), ()),".toList,
    "  ],".toList,
    "}".toList]

example : dumpLiteral exPrintable exDoc = exText := by
  unfold exText exDoc; repeat rw [String.toList_ofList]
  decide +kernel
example : loadLiteral exText = some exDoc := by
  unfold exText exDoc; repeat rw [String.toList_ofList]
  decide +kernel
example : exDoc.objects ≠ [] ∧ exDoc.properties ≠ [] := by decide
example : loadLiteral (dumpLiteral exPrintable exDoc) = some exDoc :=
  C12_literal_roundtrip_partial _ _ (by decide) (by decide)
example : pyReprStr exPrintable "\x7f\x80é\t".toList = "'\\x7f\\x80é\\t'".toList := by
  repeat rw [String.toList_ofList]
  decide +kernel
example : parseStrLit (pyReprStr exPrintable "both ' and \"".toList) = some ("both ' and \"".toList, []) :=
  C12_literal_repr_roundtrip _ _
example : pyReprStr (fun _ => false) [Char.ofNat 0x4e2d, Char.ofNat 0x1F600] =
    "'\\u4e2d\\U0001f600'".toList := by
  rw [String.toList_ofList]
  decide +kernel
/-- without lattice -/
example : dumpLiteral exPrintable ⟨[['o']], [['p']], [[0]], none⟩ =
    unlines ["{".toList,
    "  'objects': (".toList,
    "    'o',".toList,
    "  ),".toList,
    "  'properties': (".toList,
    "    'p',".toList,
    "  ),".toList,
    "  'context': [".toList,
    "    (0,),".toList,
    "  ],".toList,
    "}".toList] := by
  repeat rw [String.toList_ofList]
  decide +kernel
/-- the reader accepts other layouts, either bracket and quote, any order of the keys -/
example : loadLiteral "  {'context':[(0 , ) ,[ ] , ],\"properties\":['p' , ],'objects':('a',\"\\x62\",),}\n\n".toList =
    some ⟨[['a'], ['b']], [['p']], [[0], []], none⟩ := by
  rw [String.toList_ofList]
  decide +kernel
/-- `(x)` is not a tuple, `(,)` is a syntax error, ints have no leading zeros -/
example : loadLiteral "{'objects': ('a'), 'properties': ('p',), 'context': []}".toList = none := by
  rw [String.toList_ofList]
  decide +kernel
example : loadLiteral "{'objects': ('a',), 'properties': ('p',), 'context': [(01,)]}".toList = none := by
  rw [String.toList_ofList]
  decide +kernel
/-- an empty names tuple is written as a syntax error (counterexample for the unrestricted round trip) -/
example : dumpLiteral exPrintable ⟨[], [['p']], [], none⟩ =
    unlines ["{".toList,
    "  'objects': (".toList,
    "    ,".toList,
    "  ),".toList,
    "  'properties': (".toList,
    "    'p',".toList,
    "  ),".toList,
    "  'context': [".toList,
    "  ],".toList,
    "}".toList] := by
  repeat rw [String.toList_ofList]
  decide +kernel
example : loadLiteral (dumpLiteral exPrintable ⟨[], [['p']], [], none⟩) = none := by decide +kernel

/-- no printed line contains a line break, so the lines of the text are the printed lines -/
theorem C12_literal_lines (printable : Nat → Bool) (d : LitDoc) :
    splitChar '\n' (dumpLiteral printable d) = dumpLiteralLines printable d ++ [[]] :=
  splitChar_unlines (dumpLiteralLines_no_nl printable d)

/-- The `context` section of the text: line 7 (counting from 0; after `{` and the two three-line
name sections) is `  'context': [`, the following lines list, per row, exactly the given indexes as
`repr` of the tuple with four blanks of indent and a comma, then `  ],` closes the section. -/
theorem C12_literal_context_rows (printable : Nat → Bool) (d : LitDoc) :
    (splitChar '\n' (dumpLiteral printable d))[7]? = some "  'context': [".toList ∧
    (∀ k (h : k < d.context.length), (splitChar '\n' (dumpLiteral printable d))[8 + k]? =
      some ("    ".toList ++ pyReprIntTuple d.context[k] ++ [','])) ∧
    (splitChar '\n' (dumpLiteral printable d))[8 + d.context.length]? = some "  ],".toList := by
  obtain ⟨pre, post, hpre, hl⟩ := dumpLiteralLines_context printable d
  rw [C12_literal_lines, hl]
  refine ⟨?_, ?_, ?_⟩
  · rw [List.append_assoc, List.getElem?_append_right (by omega), hpre]
    rfl
  · intro k hk
    rw [List.append_assoc, List.getElem?_append_right (by omega), hpre,
      show 8 + k - 7 = k + 1 by omega, List.cons_append, List.getElem?_cons_succ, List.append_assoc,
      List.getElem?_append_left (by simpa using hk), List.getElem?_map, List.getElem?_eq_getElem hk]
    rfl
  · rw [List.append_assoc, List.getElem?_append_right (by omega), hpre,
      show 8 + d.context.length - 7 = d.context.length + 1 by omega, List.cons_append,
      List.getElem?_cons_succ, List.append_assoc, List.getElem?_append_right (by simp),
      List.length_map, Nat.sub_self]
    rfl

example : (splitChar '\n' (dumpLiteral exPrintable exDoc))[8 + 1]? = some "    (2,),".toList := by
  rw [(C12_literal_context_rows exPrintable exDoc).2.1 1 (by decide)]
  repeat rw [String.toList_ofList]
  decide +kernel

#print axioms C12_literal_repr_roundtrip
#print axioms C12_literal_context_rows
#print axioms C12_literal_roundtrip_partial
#print axioms C12_literal_empty_names_rejected

end FCA
