import FCA.Proofs.Stored
import FCA.Proofs.Validate
/-
Property C11 — structured persistence (`todict` / `fromdict`, `Lattice._tolist` / `_fromlist`) reloads
the same context and the same lattice.
-/
namespace FCA

open C11

/-- `Lattice._tolist`: one entry per concept, in iteration order; the entry of concept number `k`
(`c.index = k`) lists the members of extent and intent as ascending index lists (each member exactly
once) and the upper / lower neighbors as the tuples of their positions, which are the `index` of the
neighbor concepts. -/
theorem C11_tolist_shape {K : Ctx} (h : K.WF) :
    (toStored K (mkLattice K)).length = (mkLattice K).length ∧
    ∀ (k : Nat) (c : LConcept), (mkLattice K)[k]? = some c →
      (toStored K (mkLattice K))[k]? =
        some (⟨membersW K.n c.extent, membersW K.m c.intent, c.upper, c.lower⟩ : Stored) ∧
      c.index = k ∧
      (membersW K.n c.extent).Pairwise (· < ·) ∧ (∀ o, o ∈ membersW K.n c.extent ↔ o ∈ᵇ c.extent) ∧
      (membersW K.m c.intent).Pairwise (· < ·) ∧ (∀ p, p ∈ membersW K.m c.intent ↔ p ∈ᵇ c.intent) ∧
      ofMembers (membersW K.n c.extent) = c.extent ∧ ofMembers (membersW K.m c.intent) = c.intent ∧
      (∀ j ∈ c.upper, ∃ d : LConcept, (mkLattice K)[j]? = some d ∧ d.index = j) ∧
      (∀ j ∈ c.lower, ∃ d : LConcept, (mkLattice K)[j]? = some d ∧ d.index = j) := by
  have S := mkLattice_spec h
  refine ⟨by simp [toStored], ?_⟩
  intro k c hc
  have hbe := S.bounded hc
  have hbi := S.bounded_intent hc
  exact ⟨by rw [toStored_get, hc]; rfl, S.index hc,
    membersW_sorted _ _, fun _ => mem_membersW_of_bounded hbe,
    membersW_sorted _ _, fun _ => mem_membersW_of_bounded hbi,
    ofMembers_membersW hbe, ofMembers_membersW hbi,
    fun j hj => (S.upper_get hc hj).imp fun _ hd => ⟨hd.1, S.index hd.1⟩,
    fun j hj => (S.lower_get hc hj).imp fun _ hd => ⟨hd.1, S.index hd.1⟩⟩

def C11_exK : Ctx := mkCtx 3 3 #[0b011, 0b001, 0b110]
theorem C11_exK_WF : C11_exK.WF := mkCtx_WF rfl (by decide)

/-- the stored form of the example lattice -/
def C11_exSt : List Stored :=
  [⟨[], [0, 1, 2], [1, 2], []⟩, ⟨[0], [0, 1], [3, 4], [0]⟩, ⟨[2], [1, 2], [4], [0]⟩,
   ⟨[0, 1], [0], [5], [1]⟩, ⟨[0, 2], [1], [5], [1, 2]⟩, ⟨[0, 1, 2], [], [], [3, 4]⟩]

deriving instance DecidableEq for Stored

theorem C11_exSt_eq : toStored C11_exK (mkLattice C11_exK) = C11_exSt := by
  rw [C11_exK, exK_lattice]
  decide +kernel

example : C11_exK.WF ∧ (mkLattice C11_exK).length = 6 := ⟨C11_exK_WF, by rw [C11_exK, exK_lattice]; decide +kernel⟩

/-- `_init` + `_annotate` (the model's `finishLattice`) recompute `index`, `dindex`, `atoms` and both
label lists from the (extent, intent, upper, lower) part of the concepts -/
theorem C11_init_annotate {K : Ctx} (h : K.WF) :
    finishLattice K ((mkLattice K).map fun c => (c.extent, c.intent, c.upper, c.lower)) = mkLattice K :=
  finishLattice_spec (mkLattice_spec h)

/-- `Lattice._fromlist(context, lattice._tolist(), unordered=False)` is the lattice: the lists of
concepts are equal, i.e. every field (extent, intent, upper, lower, index, dindex, atoms, objects,
properties) of every concept -/
theorem C11_roundtrip_ordered {K : Ctx} (h : K.WF) :
    fromStored K (toStored K (mkLattice K)) false = mkLattice K := by
  have S := mkLattice_spec h
  rw [fromStored_false, decode_toStored S]
  exact finishLattice_spec S

/-- `Lattice._fromlist(context, shuffled, unordered=True)` is the lattice, for ANY rearrangement of
the stored concepts (neighbor indexes renamed accordingly) and ANY rearrangement inside each of the
four index tuples of every stored concept. -/
theorem C11_roundtrip_raw {K : Ctx} (h : K.WF) {st' : List Stored} {perm newpos : Nat → Nat}
    (hs : StoredShuffle (toStored K (mkLattice K)) st' perm newpos) :
    fromStored K st' true = mkLattice K :=
  fromStored_raw (mkLattice_spec h) hs

/-- the identity rearrangement -/
theorem C11_shuffle_refl (st : List Stored) : StoredShuffle st st id id :=
  .inner rfl fun p _ s' hs' s hs => by
    cases Option.some.inj ((Option.mem_def.mp hs').symm.trans hs)
    exact ⟨.refl _, .refl _, .refl _, .refl _⟩

/-- special case: the re-sorting path on the stored form itself (`raw=True` on a `todict()` that was
not touched) -/
theorem C11_roundtrip_raw_identity {K : Ctx} (h : K.WF) :
    fromStored K (toStored K (mkLattice K)) true = mkLattice K :=
  C11_roundtrip_raw h (C11_shuffle_refl _)

/-- special case: the concepts stay in place, the four index tuples of every stored concept are
shuffled arbitrarily -/
theorem C11_roundtrip_raw_inner {K : Ctx} (h : K.WF) {st' : List Stored}
    (hlen : st'.length = (toStored K (mkLattice K)).length)
    (hent : ∀ p, p < (toStored K (mkLattice K)).length → ∀ s' ∈ st'[p]?, ∀ s ∈ (toStored K (mkLattice K))[p]?,
      s'.extent.Perm s.extent ∧ s'.intent.Perm s.intent ∧ s'.upper.Perm s.upper ∧ s'.lower.Perm s.lower) :
    fromStored K st' true = mkLattice K :=
  C11_roundtrip_raw h (.inner hlen hent)

/-- non-vacuity (inner shuffle): every tuple of the example written in another order -/
def C11_exInner : List Stored :=
  [⟨[], [2, 0, 1], [2, 1], []⟩, ⟨[0], [1, 0], [4, 3], [0]⟩, ⟨[2], [2, 1], [4], [0]⟩,
   ⟨[1, 0], [0], [5], [1]⟩, ⟨[2, 0], [1], [5], [2, 1]⟩, ⟨[1, 2, 0], [], [], [4, 3]⟩]

example : C11_exInner.length = (toStored C11_exK (mkLattice C11_exK)).length ∧
    ∀ p, p < (toStored C11_exK (mkLattice C11_exK)).length → ∀ s' ∈ C11_exInner[p]?,
      ∀ s ∈ (toStored C11_exK (mkLattice C11_exK))[p]?,
      s'.extent.Perm s.extent ∧ s'.intent.Perm s.intent ∧ s'.upper.Perm s.upper ∧ s'.lower.Perm s.lower := by
  rw [C11_exSt_eq]; decide +kernel

/-- non-vacuity (general shuffle): the six stored concepts in the order 4, 0, 5, 2, 1, 3, neighbor
indexes renamed, all tuples shuffled -/
def C11_exShuffled : List Stored :=
  [⟨[2, 0], [1], [2], [3, 4]⟩, ⟨[], [2, 0, 1], [4, 3], []⟩, ⟨[1, 2, 0], [], [], [0, 5]⟩,
   ⟨[2], [2, 1], [0], [1]⟩, ⟨[0], [0, 1], [5, 0], [1]⟩, ⟨[1, 0], [0], [2], [4]⟩]
def C11_exPerm (p : Nat) : Nat := [4, 0, 5, 2, 1, 3].getD p 0
def C11_exNewpos (q : Nat) : Nat := [1, 4, 3, 5, 0, 2].getD q 0

theorem C11_exShuffle :
    StoredShuffle (toStored C11_exK (mkLattice C11_exK)) C11_exShuffled C11_exPerm C11_exNewpos := by
  rw [C11_exSt_eq]
  exact ⟨by decide +kernel, by decide +kernel, by decide +kernel, by decide +kernel, by decide +kernel, by decide +kernel⟩

/-- the example instance of the theorem, also checked by evaluation -/
example : fromStored C11_exK C11_exShuffled true = mkLattice C11_exK := C11_roundtrip_raw C11_exK_WF C11_exShuffle
example : (fromStored C11_exK C11_exShuffled true == mkLattice C11_exK) = true := by
  rw [C11_exK, exK_lattice]; decide +kernel
example : (fromStored C11_exK C11_exInner true == mkLattice C11_exK) = true := by
  rw [C11_exK, exK_lattice]; decide +kernel
example : (fromStored C11_exK C11_exSt false == mkLattice C11_exK) = true := by
  rw [C11_exK, exK_lattice]; decide +kernel
/-- the ordered path does NOT accept a shuffled list (it is only specified for canonical order) -/
example : (fromStored C11_exK C11_exShuffled false == mkLattice C11_exK) = false := by
  rw [C11_exK, exK_lattice]; decide +kernel

/-- `todict()['context']` stores for every object the ascending list of its property indexes
(`membersW` of the row); `fromdict` rebuilds the row mask from it -/
theorem C11_context_roundtrip {K : Ctx} (h : K.WF) (i : Nat) (hi : i < K.n) :
    (membersW K.m K.rows[i]!).Pairwise (· < ·) ∧
    (∀ j, j ∈ membersW K.m K.rows[i]! ↔ j ∈ᵇ K.rows[i]!) ∧
    ofMembers (membersW K.m K.rows[i]!) = K.rows[i]! := by
  have hb : Bounded K.m K.rows[i]! := bounded_iff_lt.mpr (h.2.1 i hi)
  exact ⟨membersW_sorted _ _, fun _ => mem_membersW_of_bounded hb, ofMembers_membersW hb⟩

/-- the Boolean row `fromdict` builds from the stored index row (`boolsOf`, see `fromdictCheck`)
has the original row mask -/
theorem C11_row_roundtrip {m r : Nat} (hb : Bounded m r) :
    rowMask ((List.range m).map fun (j : Nat) => ((membersW m r).map Int.ofNat).contains (j : Int)) = r := by
  -- cell `j` of the row is true iff `j` is listed, i.e. iff bit `j` of `r` is set
  conv_rhs => rw [← rowMask_testBits (bounded_iff_lt.mp hb)]
  refine congrArg rowMask (List.map_congr_left fun j hj => ?_)
  rw [Bool.eq_iff_iff, List.contains_iff_mem, List.mem_map]
  exact ⟨fun ⟨a, ha, e⟩ => Int.ofNat.inj e ▸ (mem_membersW.mp ha).2,
    fun h => ⟨j, mem_membersW.mpr ⟨List.mem_range.mp hj, h⟩, rfl⟩⟩

/-- `Context.fromdict(context.todict())` on index level: decoding the stored table
(`boolsOf` + `rowMask` + `mkCtx`, the accepted path of `fromdictCheck` / `ctxOfTriple`) gives back
the context, rows and columns -/
theorem C11_context_roundtrip_ctx {K : Ctx} (h : K.WF) :
    mkCtx K.n K.m (((boolsOf K.m (K.rows.toList.map fun r => (membersW K.m r).map Int.ofNat)).map rowMask).toArray) = K := by
  have hrows : ((boolsOf K.m (K.rows.toList.map fun r => (membersW K.m r).map Int.ofNat)).map rowMask).toArray = K.rows := by
    unfold boolsOf
    rw [List.map_map, List.map_map, List.map_congr_left (g := id) fun r hr => ?_, List.map_id, Array.toArray_toList]
    -- a row of a well-formed context is bounded
    obtain ⟨i, hi, rfl⟩ := Array.mem_iff_getElem.mp (Array.mem_toList_iff.mp hr)
    exact C11_row_roundtrip (bounded_iff_lt.mpr (getElem!_pos K.rows i hi ▸ h.2.1 i (h.1 ▸ hi)))
  rw [hrows, h.mkCtx_eq]

example : C11_exK.rows.toList.map (fun r => membersW C11_exK.m r) = [[0, 1], [0], [1, 2]] := by decide +kernel

end FCA

#print axioms FCA.C11_tolist_shape
#print axioms FCA.C11_init_annotate
#print axioms FCA.C11_roundtrip_ordered
#print axioms FCA.C11_roundtrip_raw
#print axioms FCA.C11_roundtrip_raw_identity
#print axioms FCA.C11_roundtrip_raw_inner
#print axioms FCA.C11_exShuffle
#print axioms FCA.C11_context_roundtrip
#print axioms FCA.C11_row_roundtrip
#print axioms FCA.C11_context_roundtrip_ctx
