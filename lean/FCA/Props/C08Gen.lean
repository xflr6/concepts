import FCA.Props.C08
import FCA.Generated.Predicates
/-
C08 for the predicate kernels regenerated by harness/extract.py from the current
`concepts/lattice_members.py` (this file is re-checked on every run).
-/
namespace FCA

def Generated.kernels : PredKernels :=
  ⟨Generated.implies, Generated.subsumes, Generated.properly_implies, Generated.properly_subsumes,
   Generated.incompatible_with, Generated.complement_of, Generated.subcontrary_with, Generated.orthogonal_to⟩

attribute [pred_norm] Generated.kernels Generated.implies Generated.subsumes Generated.properly_implies
  Generated.properly_subsumes Generated.incompatible_with Generated.complement_of Generated.subcontrary_with
  Generated.orthogonal_to

/-- the source text of the eight predicates satisfies the specification -/
theorem C08_generated_correct : Generated.kernels.Correct where
  implies := by intro x y t; pred_norm
  subsumes := by intro x y t; pred_norm
  properly_implies := by intro x y t; pred_norm
  properly_subsumes := by intro x y t; pred_norm
  incompatible_with := by intro x y t; pred_norm
  complement_of := by intro x y t; pred_norm
  subcontrary_with := by intro x y t; pred_norm
  orthogonal_to := by intro x y t; pred_norm

/-- hence the regenerated kernels agree with the pinned ones the driver executes, on all inputs -/
theorem C08_generated_eq_pinned (x y t : Nat) :
    Generated.implies x y t = Pinned.implies x y t ∧ Generated.subsumes x y t = Pinned.subsumes x y t ∧
    Generated.properly_implies x y t = Pinned.properly_implies x y t ∧
    Generated.properly_subsumes x y t = Pinned.properly_subsumes x y t ∧
    Generated.incompatible_with x y t = Pinned.incompatible_with x y t ∧
    Generated.complement_of x y t = Pinned.complement_of x y t ∧
    Generated.subcontrary_with x y t = Pinned.subcontrary_with x y t ∧
    Generated.orthogonal_to x y t = Pinned.orthogonal_to x y t := by
  have g := C08_generated_correct
  have p := C08_pinned_correct
  refine ⟨?_, ?_, ?_, ?_, ?_, ?_, ?_, ?_⟩ <;> rw [Bool.eq_iff_iff]
  · exact (g.implies x y t).trans (p.implies x y t).symm
  · exact (g.subsumes x y t).trans (p.subsumes x y t).symm
  · exact (g.properly_implies x y t).trans (p.properly_implies x y t).symm
  · exact (g.properly_subsumes x y t).trans (p.properly_subsumes x y t).symm
  · exact (g.incompatible_with x y t).trans (p.incompatible_with x y t).symm
  · exact (g.complement_of x y t).trans (p.complement_of x y t).symm
  · exact (g.subcontrary_with x y t).trans (p.subcontrary_with x y t).symm
  · exact (g.orthogonal_to x y t).trans (p.orthogonal_to x y t).symm

/-- the `common` expressions of `Concept.join` / `Concept.meet` are union and intersection -/
theorem C08_generated_common (x y : Nat) :
    Generated.join_common x y = Pinned.join_common x y ∧ Generated.meet_common x y = Pinned.meet_common x y := by
  constructor  -- `or_comm` / `and_comm` are for a source that writes the operands the other way round
  · apply ext; intro i; simp [Generated.join_common, Pinned.join_common, or_comm]
  · apply ext; intro i; simp [Generated.meet_common, Pinned.meet_common, and_comm]

end FCA
#print axioms FCA.C08_generated_correct
#print axioms FCA.C08_generated_eq_pinned
