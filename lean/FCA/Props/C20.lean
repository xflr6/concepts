import Mathlib.Data.Finset.Card
import FCA.Proofs.Dot
import FCA.Props.C10
import FCA.Props.C11
/-
C20 — The Graphviz export (`visualize.lattice`, `Lattice.graphviz()`) is a faithful drawing of the
labelled Hasse diagram.

`dotItems L` is the sequence of statements added to the `Digraph`: `node k` for `dot.node('c<k>')`,
`objectLabel k os` / `propertyLabel k ps` for the transparent self-loop carrying
`make_object_label(os)` / `make_property_label(ps)` (the callback is applied to exactly the listed names),
`edge k j` for `dot.edge('c<k>', 'c<j>')` (drawn with `dir=none`).  For `L = Context.lattice` of a
well-formed context:

* one `node` statement per concept (named by its index), nothing else;
* one `edge` statement per covering pair, from the upper concept to its lower neighbor, and nowhere else
  (never in both directions, no loops);
* a label statement precisely for the concepts carrying objects (properties) in the reduced labelling,
  with exactly those objects (properties), at most one per node;
* no statement is emitted twice.
-/
namespace FCA

/-- no statement is emitted twice -/
theorem C20_nodup {K : Ctx} (hK : K.WF) : (dotItems (mkLattice K)).Nodup :=
  C20.dot_nodup (mkLattice_spec hK)

/-- the statements of one concept: node, object label (if any), property label (if any), then the edges
to the lower neighbors by ascending index; concepts in iteration order (by definition of the model) -/
theorem C20_layout (L : Lattice) :
    dotItems L = L.flatMap fun c =>
      [DotItem.node c.index] ++
      (if c.objects.isEmpty then [] else [DotItem.objectLabel c.index c.objects]) ++
      (if c.properties.isEmpty then [] else [DotItem.propertyLabel c.index c.properties]) ++
      (sortBy id c.lower).map (DotItem.edge c.index) := rfl

/-- a node is declared exactly for the indexes of the concepts -/
theorem C20_nodes {K : Ctx} (hK : K.WF) (k : Nat) :
    DotItem.node k ∈ dotItems (mkLattice K) ↔ k < (mkLattice K).length :=
  C20.mem_node (mkLattice_spec hK) k

/-- ... each exactly once (`count` w.r.t. the derived `==` of `DotItem`, which is equality) -/
theorem C20_nodes_once {K : Ctx} (hK : K.WF) {k : Nat} (hk : k < (mkLattice K).length) :
    (dotItems (mkLattice K)).count (DotItem.node k) = 1 :=
  List.count_eq_one_of_mem (C20_nodup hK) ((C20_nodes hK k).mpr hk)

/-- ... so there are as many node statements as concepts -/
theorem C20_nodes_count {K : Ctx} (hK : K.WF) :
    (dotItems (mkLattice K)).countP C20.isNode = (mkLattice K).length :=
  C20.countP_isNode _  -- holds of any list of concepts

/-- an edge `k → j` is drawn iff the concept at `j` is a lower cover of the concept at `k` -/
theorem C20_edges {K : Ctx} (hK : K.WF) (k j : Nat) :
    DotItem.edge k j ∈ dotItems (mkLattice K) ↔
      ∃ c d, (mkLattice K)[k]? = some c ∧ (mkLattice K)[j]? = some d ∧ closedObj K d.extent ∧
        covers K d.extent c.extent := by
  have S := mkLattice_spec hK
  rw [C20.mem_edge S, C20.lower_iff_covers S]
  constructor
  · rintro ⟨c, d, hc, hd, hcv⟩; exact ⟨c, d, hc, hd, S.closed hd, hcv⟩
  · rintro ⟨c, d, hc, hd, _, hcv⟩; exact ⟨c, d, hc, hd, hcv⟩

/-- ... i.e. iff `j` is listed in `lower_neighbors` of the concept `k` -/
theorem C20_edges_lower {K : Ctx} (hK : K.WF) (k j : Nat) :
    DotItem.edge k j ∈ dotItems (mkLattice K) ↔ ∃ c, (mkLattice K)[k]? = some c ∧ j ∈ c.lower :=
  C20.mem_edge (mkLattice_spec hK) k j

/-- ... equivalently iff `k` is listed in `upper_neighbors` of the concept `j` -/
theorem C20_edges_upper {K : Ctx} (hK : K.WF) (k j : Nat) :
    DotItem.edge k j ∈ dotItems (mkLattice K) ↔ ∃ d, (mkLattice K)[j]? = some d ∧ k ∈ d.upper := by
  have S := mkLattice_spec hK
  rw [C20_edges_lower hK]
  constructor
  · rintro ⟨c, hc, hj⟩
    obtain ⟨d, hd, _⟩ := S.lower_get hc hj
    exact ⟨d, hd, (S.mem_upper_iff_mem_lower hd hc).mpr hj⟩
  · rintro ⟨d, hd, hk⟩
    obtain ⟨c, hc, _⟩ := S.upper_get hd hk
    exact ⟨c, hc, (S.mem_upper_iff_mem_lower hd hc).mp hk⟩

/-- every edge at most once -/
theorem C20_edges_once {K : Ctx} (hK : K.WF) (k j : Nat) :
    (dotItems (mkLattice K)).count (DotItem.edge k j) ≤ 1 :=
  List.nodup_iff_count_le_one.mp (C20_nodup hK) _

/-- edges point from the later (greater) to the earlier concept: never both directions, no loops -/
theorem C20_edges_one_direction {K : Ctx} (hK : K.WF) {k j : Nat}
    (h : DotItem.edge k j ∈ dotItems (mkLattice K)) :
    j < k ∧ k < (mkLattice K).length ∧ DotItem.edge j k ∉ dotItems (mkLattice K) := by
  have key : ∀ {a b : Nat}, DotItem.edge a b ∈ dotItems (mkLattice K) → b < a ∧ a < (mkLattice K).length := by
    intro a b hab
    obtain ⟨c, hc, hb⟩ := (C20_edges_lower hK a b).mp hab
    exact ⟨(mkLattice_spec hK).lower_lt hc hb, lt_of_get hc⟩
  exact ⟨(key h).1, (key h).2, fun h' => Nat.lt_asymm (key h).1 (key h').1⟩

/-- the edge statements in emission order: by ascending tail, then ascending head -/
theorem C20_edges_sorted {K : Ctx} (hK : K.WF) :
    (C20.edgePairs (mkLattice K)).Pairwise (fun p q => p.1 < q.1 ∨ (p.1 = q.1 ∧ p.2 < q.2)) :=
  C20.edgePairs_sorted (mkLattice_spec hK)

/-- an object label is attached exactly to the concepts with a non-empty `objects` label, carrying it -/
theorem C20_labels_objects {K : Ctx} (hK : K.WF) (k : Nat) (os : List Nat) :
    DotItem.objectLabel k os ∈ dotItems (mkLattice K) ↔
      ∃ c, (mkLattice K)[k]? = some c ∧ c.objects ≠ [] ∧ os = c.objects :=
  C20.mem_olabel (mkLattice_spec hK) k os

theorem C20_labels_properties {K : Ctx} (hK : K.WF) (k : Nat) (ps : List Nat) :
    DotItem.propertyLabel k ps ∈ dotItems (mkLattice K) ↔
      ∃ c, (mkLattice K)[k]? = some c ∧ c.properties ≠ [] ∧ ps = c.properties :=
  C20.mem_plabel (mkLattice_spec hK) k ps

/-- at most one object label and one property label per node -/
theorem C20_labels_unique {K : Ctx} (hK : K.WF) (k : Nat) :
    (∀ os os', DotItem.objectLabel k os ∈ dotItems (mkLattice K) →
      DotItem.objectLabel k os' ∈ dotItems (mkLattice K) → os = os') ∧
    (∀ ps ps', DotItem.propertyLabel k ps ∈ dotItems (mkLattice K) →
      DotItem.propertyLabel k ps' ∈ dotItems (mkLattice K) → ps = ps') ∧
    (∀ os, (dotItems (mkLattice K)).count (DotItem.objectLabel k os) ≤ 1) ∧
    (∀ ps, (dotItems (mkLattice K)).count (DotItem.propertyLabel k ps) ≤ 1) :=
  ⟨fun _ _ => C20.label_unique (C20_labels_objects hK), fun _ _ => C20.label_unique (C20_labels_properties hK),
    fun _ => List.nodup_iff_count_le_one.mp (C20_nodup hK) _, fun _ => List.nodup_iff_count_le_one.mp (C20_nodup hK) _⟩

/-- the text of a label is made from exactly the objects (properties) whose object (attribute) concept
the node is, in context order (with C10) -/
theorem C20_labels_content {K : Ctx} (hK : K.WF) {k : Nat} {c : LConcept} (hc : (mkLattice K)[k]? = some c) :
    (∀ os, DotItem.objectLabel k os ∈ dotItems (mkLattice K) →
      os.Pairwise (· < ·) ∧ ∀ o, o ∈ os ↔ o < K.n ∧ c.extent = K.doubleObj (2 ^ o)) ∧
    (∀ ps, DotItem.propertyLabel k ps ∈ dotItems (mkLattice K) →
      ps.Pairwise (· < ·) ∧ ∀ p, p ∈ ps ↔ p < K.m ∧ c.extent = K.extentOf (2 ^ p)) :=
  ⟨fun _ => C20.label_content (C20_labels_objects hK) (C10.objects_labelling (mkLattice_spec hK)) hc,
    fun _ => C20.label_content (C20_labels_properties hK) (C10.properties_labelling (mkLattice_spec hK)) hc⟩

/-- every object (property) name appears in the label of exactly one node -/
theorem C20_labels_cover {K : Ctx} (hK : K.WF) :
    (∀ o, o < K.n → ∃! k, ∃ os, DotItem.objectLabel k os ∈ dotItems (mkLattice K) ∧ o ∈ os) ∧
    (∀ p, p < K.m → ∃! k, ∃ ps, DotItem.propertyLabel k ps ∈ dotItems (mkLattice K) ∧ p ∈ ps) :=
  ⟨fun _ => C20.label_cover (C20_labels_objects hK) (C10.objects_labelling (mkLattice_spec hK)),
    fun _ => C20.label_cover (C20_labels_properties hK) (C10.properties_labelling (mkLattice_spec hK))⟩

/-- the number of edge statements is the sum of the numbers of lower neighbors -/
theorem C20_count {K : Ctx} (hK : K.WF) :
    (dotItems (mkLattice K)).countP C20.isEdge = ((mkLattice K).map (·.lower.length)).sum :=
  C20.countP_isEdge _  -- holds of any list of concepts

/-- ... = the number of covering pairs of positions: `P` any finite set holding exactly these pairs -/
theorem C20_count_covering_pairs {K : Ctx} (hK : K.WF) (P : Finset (Nat × Nat))
    (hP : ∀ k j, (k, j) ∈ P ↔
      ∃ c d, (mkLattice K)[k]? = some c ∧ (mkLattice K)[j]? = some d ∧ covers K d.extent c.extent) :
    (dotItems (mkLattice K)).countP C20.isEdge = P.card := by
  have S := mkLattice_spec hK
  have : P = (C20.edgePairs (mkLattice K)).toFinset := by
    ext ⟨k, j⟩
    rw [hP, List.mem_toFinset, C20.mem_edgePairs_iff S]
  rw [this, List.toFinset_card_of_nodup (C20.edgePairs_nodup S), C20.edgePairs_length]

/-- ... = the number of covering pairs of the concept lattice (pairs of extents `G ≺ D`) -/
theorem C20_count_covering_extents {K : Ctx} (hK : K.WF) (P : Finset (Nat × Nat))
    (hP : ∀ G D, (G, D) ∈ P ↔ closedObj K G ∧ covers K G D) :
    (dotItems (mkLattice K)).countP C20.isEdge = P.card := by
  have S := mkLattice_spec hK
  have : P = (C20.coverPairs (mkLattice K)).toFinset := by
    ext ⟨G, D⟩
    rw [hP, List.mem_toFinset, C20.mem_coverPairs S]
  rw [this, List.toFinset_card_of_nodup (C20.coverPairs_nodup S), C20.coverPairs_length]

/-- the hypotheses on `P` are satisfiable for every context -/
example {K : Ctx} (hK : K.WF) : ∃ P : Finset (Nat × Nat), ∀ k j, (k, j) ∈ P ↔
    ∃ c d, (mkLattice K)[k]? = some c ∧ (mkLattice K)[j]? = some d ∧ covers K d.extent c.extent :=
  ⟨(C20.edgePairs (mkLattice K)).toFinset, fun k j => by
    rw [List.mem_toFinset, C20.mem_edgePairs_iff (mkLattice_spec hK)]⟩
example {K : Ctx} (hK : K.WF) : ∃ P : Finset (Nat × Nat), ∀ G D, (G, D) ∈ P ↔ closedObj K G ∧ covers K G D :=
  ⟨(C20.coverPairs (mkLattice K)).toFinset, fun G D => by
    rw [List.mem_toFinset, C20.mem_coverPairs (mkLattice_spec hK)]⟩

/-- the diamond of C10 (duplicate rows, a full row, a full column): four nodes, four edges, labels on
infimum and supremum, one label with two objects -/
example : C10_exK.WF := mkCtx_WF rfl (by decide)
example : dotItems (mkLattice C10_exK) =
    [.node 0, .objectLabel 0 [3], .propertyLabel 0 [3],
     .node 1, .objectLabel 1 [0], .propertyLabel 1 [1], .edge 1 0,
     .node 2, .objectLabel 2 [1, 2], .propertyLabel 2 [2], .edge 2 0,
     .node 3, .propertyLabel 3 [0], .edge 3 1, .edge 3 2] := eq_of_beq (by rw [C10S_exK_lattice]; decide +kernel)
example : (dotItems (mkLattice C10_exK)).countP C20.isEdge = 4 := by rw [C10S_exK_lattice]; decide +kernel

/-- one-concept lattice (one object having the one property): a single labelled node, no edge -/
def C20_exK1 : Ctx := mkCtx 1 1 #[0b1]
example : C20_exK1.WF := mkCtx_WF rfl (by decide)
example : dotItems (mkLattice C20_exK1) = [.node 0, .objectLabel 0 [0], .propertyLabel 0 [0]] :=
  eq_of_beq (by decide +kernel)

/-- two-concept lattice: the infimum `(∅, {0})` carries the property, the supremum the object -/
def C20_exK2 : Ctx := mkCtx 1 1 #[0b0]
example : C20_exK2.WF := mkCtx_WF rfl (by decide)
example : dotItems (mkLattice C20_exK2) =
    [.node 0, .propertyLabel 0 [0], .node 1, .objectLabel 1 [0], .edge 1 0] := eq_of_beq (by decide +kernel)

/-- unlabelled supremum and infimum without objects (C10's second example) -/
example : dotItems (mkLattice C10_exK2) =
    [.node 0, .propertyLabel 0 [2],
     .node 1, .objectLabel 1 [0], .propertyLabel 1 [0], .edge 1 0,
     .node 2, .objectLabel 2 [1], .propertyLabel 2 [1], .edge 2 0,
     .node 3, .edge 3 1, .edge 3 2] := eq_of_beq (by decide +kernel)

/-- `graphviz()` of a lattice rebuilt by `Lattice._fromlist` — from the stored list in canonical order
(`fromStored … false`), or from ANY rearrangement of the stored concepts and of their index tuples
through the re-sorting path (`fromStored … true`) — emits exactly the statements of `Context.lattice`;
so every theorem of C20 holds for loaded lattices too -/
theorem C20_loaded_lattice {K : Ctx} (hK : K.WF) :
    dotItems (fromStored K (toStored K (mkLattice K)) false) = dotItems (mkLattice K) ∧
    (∀ (st' : List Stored) (perm newpos : Nat → Nat),
      StoredShuffle (toStored K (mkLattice K)) st' perm newpos →
      dotItems (fromStored K st' true) = dotItems (mkLattice K)) := by
  refine ⟨by rw [C11_roundtrip_ordered hK], fun st' perm newpos hs => ?_⟩
  rw [C11_roundtrip_raw hK hs]

/-- e.g. the unshuffled stored form through the re-sorting path -/
theorem C20_loaded_lattice_raw {K : Ctx} (hK : K.WF) :
    dotItems (fromStored K (toStored K (mkLattice K)) true) = dotItems (mkLattice K) :=
  (C20_loaded_lattice hK).2 _ id id (C11_shuffle_refl _)

/-- non-vacuity: the shuffled stored form of C11's example (concepts in the order 4, 0, 5, 2, 1, 3, all
tuples rearranged), by the theorem and by evaluation -/
example : dotItems (fromStored C11_exK C11_exShuffled true) = dotItems (mkLattice C11_exK) :=
  (C20_loaded_lattice C11_exK_WF).2 _ _ _ C11_exShuffle
example : (dotItems (fromStored C11_exK C11_exShuffled true) == dotItems (mkLattice C11_exK)) = true := by
  rw [C11_exK, exK_lattice]; decide +kernel
example : (dotItems (mkLattice C11_exK)).countP C20.isEdge = 7 := by rw [C11_exK, exK_lattice]; decide +kernel

end FCA

#print axioms FCA.C20_nodup
#print axioms FCA.C20_layout
#print axioms FCA.C20_nodes
#print axioms FCA.C20_nodes_once
#print axioms FCA.C20_nodes_count
#print axioms FCA.C20_edges
#print axioms FCA.C20_edges_lower
#print axioms FCA.C20_edges_upper
#print axioms FCA.C20_edges_once
#print axioms FCA.C20_edges_one_direction
#print axioms FCA.C20_edges_sorted
#print axioms FCA.C20_labels_objects
#print axioms FCA.C20_labels_properties
#print axioms FCA.C20_labels_unique
#print axioms FCA.C20_labels_content
#print axioms FCA.C20_labels_cover
#print axioms FCA.C20_count
#print axioms FCA.C20_count_covering_pairs
#print axioms FCA.C20_count_covering_extents
#print axioms FCA.C20_loaded_lattice
#print axioms FCA.C20_loaded_lattice_raw
