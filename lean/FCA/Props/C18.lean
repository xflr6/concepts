import FCA.Proofs.Powerset
import FCA.Proofs.LatticeSpec
import FCA.Model.Render
/-
C18 — `Concept.attributes()` / `Concept.minimal()` (`Context._minimize`, `bitsets` `powerset()`):

For a concept with non-empty extent `attributes()` yields exactly the subsets of its intent whose
common objects are the concept's extent, each once, in shortlex order (size first, then property
position); `minimal()` is the first of them.  For an empty extent it yields just the intent.
-/
namespace FCA

/-! ### `intent.powerset()` (`combos.shortlex`): all subsets, each once, shortlex sorted -/

/-- the fuel of the model is irrelevant: the queue is the concatenation of the levels `0..n`,
level `k` being the closed form `outs k` (unions with `k` atoms, earlier atoms first) -/
theorem C18_powerset_levels (w intent : Nat) :
    powersetShortlex w intent =
      (List.range ((membersW w intent).length + 1)).flatMap
        (fun k => outs k 0 ((membersW w intent).map (2 ^ ·))) := by
  unfold powersetShortlex
  simp only
  rw [shortlexQueue_eq ((membersW w intent).length)]
  · rw [List.range_succ_eq_map (n := (membersW w intent).length), List.flatMap_cons, List.flatMap_map]
    simp only [outs_zero, List.flatMap_singleton, List.singleton_append, Nat.succ_eq_add_one]
  · simp
  · simp

/-- `intent.powerset()` yields exactly the subsets of `intent` -/
theorem C18_powerset_mem {w intent b : Nat} (hb : Bounded w intent) :
    b ∈ powersetShortlex w intent ↔ b ⊆ᵇ intent := by
  rw [C18_powerset_levels, List.mem_flatMap]
  refine ⟨fun ⟨k, _, hk⟩ => (sub_card_of_mem_outs hk).1, fun h => ⟨card w b, ?_, ?_⟩⟩
  · exact List.mem_range.mpr (Nat.lt_succ_of_le (card_le_of_sub h))
  · exact mem_outs_idx.mpr ⟨membersW w b, membersW_sublist h, rfl,
      by rw [Nat.zero_or, ofMembers_membersW (bounded_sub h hb)]⟩

/-- ... in shortlex order: by size, then by position of the first differing member -/
theorem C18_powerset_sorted (w intent : Nat) :
    (powersetShortlex w intent).Pairwise (shortlexLt w) := by
  rw [C18_powerset_levels, List.pairwise_flatMap]
  constructor
  · intro k _
    refine (outs_pairwise _ k 0 (membersW_sorted w intent) fun _ _ => not_mem_zero).imp_of_mem ?_
    intro x y hx hy hxy
    exact Or.inr ⟨by rw [(sub_card_of_mem_outs hx).2, (sub_card_of_mem_outs hy).2], hxy⟩
  · refine List.pairwise_lt_range.imp fun hk x hx y hy => Or.inl ?_
    rw [(sub_card_of_mem_outs hx).2, (sub_card_of_mem_outs hy).2]
    exact hk

/-- ... each once -/
theorem C18_powerset_nodup (w intent : Nat) : (powersetShortlex w intent).Nodup :=
  nodup_of_pairwise_shortlexLt (C18_powerset_sorted w intent)

example : Bounded 3 0b101 := by rw [bounded_iff_lt]; decide
example : powersetShortlex 3 0b111 = [0b000, 0b001, 0b010, 0b100, 0b011, 0b101, 0b110, 0b111] := by
  decide +kernel

/-! ### `attributes()` -/

/-- `attributes()` (extent non-empty) yields exactly the generating subsets of the intent;
only boundedness of the intent is needed -/
theorem C18_attributes_bounded {K : Ctx} {e i b : Nat} (hi : Bounded K.m i) (he : e ≠ 0) :
    b ∈ minimize K e i ↔ b ⊆ᵇ i ∧ K.extentOf b = e := by
  unfold minimize
  rw [if_neg he, List.mem_filter, C18_powerset_mem hi]
  simp

/-- `attributes()` of a concept with non-empty extent: exactly the subsets of the intent whose common
objects are the extent -/
theorem C18_attributes {K : Ctx} {e i b : Nat} (_hK : K.WF) (hc : isConcept K e i) (he : e ≠ 0) :
    b ∈ minimize K e i ↔ b ⊆ᵇ i ∧ K.extentOf b = e :=
  C18_attributes_bounded hc.2.1 he

/-- `attributes()` is shortlex sorted (any arguments) -/
theorem C18_sorted (K : Ctx) (e i : Nat) : (minimize K e i).Pairwise (shortlexLt K.m) := by
  unfold minimize
  split
  · simp
  · exact (C18_powerset_sorted K.m i).filter _

/-- `attributes()` yields nothing twice -/
theorem C18_nodup (K : Ctx) (e i : Nat) : (minimize K e i).Nodup :=
  nodup_of_pairwise_shortlexLt (C18_sorted K e i)

/-- `minimal()`: the head of `attributes()` exists — the intent itself is yielded —, it generates the
concept and every other generating subset of the intent is shortlex-greater -/
theorem C18_minimal_head {K : Ctx} {e i : Nat} (_hK : K.WF) (hc : isConcept K e i) (he : e ≠ 0) :
    i ∈ minimize K e i ∧
    ∃ h, (minimize K e i).head? = some h ∧ h ⊆ᵇ i ∧ K.extentOf h = e ∧
      ∀ b, b ⊆ᵇ i → K.extentOf b = e → b = h ∨ shortlexLt K.m h b := by
  have hmem := fun b => C18_attributes_bounded (b := b) hc.2.1 he
  have hi := (hmem i).mpr ⟨sub_refl i, hc.2.2.2⟩
  refine ⟨hi, ?_⟩
  have hs := C18_sorted K e i
  cases hl : minimize K e i with
  | nil => rw [hl] at hi; cases hi
  | cons h t =>
    rw [hl] at hs
    simp only [hl, List.mem_cons] at hmem
    obtain ⟨h1, h2⟩ := (hmem h).mp (Or.inl rfl)
    exact ⟨h, rfl, h1, h2, fun b hb1 hb2 =>
      ((hmem b).mpr ⟨hb1, hb2⟩).imp_right (List.rel_of_pairwise_cons hs)⟩

/-- empty extent: `attributes()` yields just the given intent (so `minimal()` of an infimum with empty
extent is its full intent) -/
theorem C18_empty_extent (K : Ctx) (i : Nat) : minimize K 0 i = [i] := by
  simp [minimize]

theorem C18_empty_extent_head (K : Ctx) (i : Nat) : (minimize K 0 i).head? = some i := by
  rw [C18_empty_extent]; rfl

/-- every yielded set regenerates the concept (all extents, also the empty one) -/
theorem C18_regenerates {K : Ctx} {e i b : Nat} (hb : b ∈ minimize K e i) (hc : isConcept K e i) :
    K.extentOf b = e := by
  by_cases he : e = 0
  · subst he
    rw [C18_empty_extent, List.mem_singleton] at hb
    subst hb; exact hc.2.2.2
  · exact ((C18_attributes_bounded hc.2.1 he).mp hb).2

/-- ... so `lattice(b)` (`Lattice.__call__`) looks up the concept's extent -/
theorem C18_regenerates_lookup {K : Ctx} {e i b : Nat} (L : Lattice) (hb : b ∈ minimize K e i)
    (hc : isConcept K e i) : lookupProperties K L b = L.find e := by
  unfold lookupProperties; rw [C18_regenerates hb hc]

/-- with a non-empty extent the yielded sets are subsets of the intent with that same closure -/
theorem C18_regenerates_intent {K : Ctx} {e i b : Nat} (hb : b ∈ minimize K e i)
    (hc : isConcept K e i) : K.intentOf (K.extentOf b) = i := by
  rw [C18_regenerates hb hc]; exact hc.2.2.1

/-! ### non-vacuity: objects `0 ↦ {0}`, `1 ↦ {0,1}`, `2 ↦ {1,2}`; concept `({1}, {0,1})` -/

/-- example context -/
def C18_exK : Ctx := mkCtx 3 3 #[0b001, 0b011, 0b110]

example : C18_exK.WF := mkCtx_WF rfl (by decide)
example : isConcept C18_exK 0b010 0b011 := by
  exact ⟨bounded_iff_lt.mpr (by decide), bounded_iff_lt.mpr (by decide), by decide +kernel, by decide +kernel⟩
example : (0b010 : Nat) ≠ 0 := by decide
/-- `{0,1}` is the only generator of extent `{1}`; the concept `({2}, {1,2})` below has two generators -/
example : minimize C18_exK 0b010 0b011 = [0b011] := by decide +kernel
example : isConcept C18_exK 0b100 0b110 := by
  exact ⟨bounded_iff_lt.mpr (by decide), bounded_iff_lt.mpr (by decide), by decide +kernel, by decide +kernel⟩
example : minimize C18_exK 0b100 0b110 = [0b100, 0b110] := by decide +kernel
example : (0b110 : Nat) ∈ minimize C18_exK 0b100 0b110 := by decide +kernel
/-- infimum of the example: empty extent, all properties -/
example : isConcept C18_exK 0 0b111 := by
  exact ⟨bounded_iff_lt.mpr (by decide), bounded_iff_lt.mpr (by decide), by decide +kernel, by decide +kernel⟩
example : minimize C18_exK 0 0b111 = [0b111] := C18_empty_extent _ _

/-! ### the shortlex order is asymmetric: "the first" generator is well defined -/

theorem C18_shortlex_asymm (w a b : Nat) (h : shortlexLt w a b) : ¬ shortlexLt w b a := shortlexLt_asymm h

/-! ### `Concept.minimal()` / `Infimum.minimal()` on the concepts of a lattice (`conceptMinimal`) -/

/-- the concept at a position of `Context.lattice` is a formal concept -/
theorem C18_lattice_isConcept {K : Ctx} (hK : K.WF) {k : Nat} {c : LConcept}
    (hc : (mkLattice K)[k]? = some c) : isConcept K c.extent c.intent := by
  have S := mkLattice_spec hK
  exact isConcept_iff_closed.mpr ⟨S.closed hc, S.intent hc⟩

/-- the intent of an empty extent is the set of all properties -/
theorem C18_intent_of_empty (K : Ctx) : K.intentOf 0 = full K.m := intentOf_zero K

/-- only the first concept (the infimum) can have an empty extent, and then its intent is the set of
all properties -/
theorem C18_empty_extent_position {K : Ctx} (hK : K.WF) {k : Nat} {c : LConcept}
    (hc : (mkLattice K)[k]? = some c) (he : c.extent = 0) : k = 0 ∧ c.intent = full K.m := by
  have S := mkLattice_spec hK
  obtain ⟨c0, h0, _⟩ := S.get_zero
  -- the empty set lies below the first extent
  have hs : c.extent ⊆ᵇ c0.extent := he.symm ▸ zero_sub _
  exact ⟨Nat.le_zero.mp (S.pos_le_of_sub hc h0 hs), by rw [S.intent hc, he, intentOf_zero]⟩

/-- `minimal()` is the first element of `attributes()`, for every concept of every lattice (list of
concepts) — the `Infimum` override included: it only applies when the extent is empty, where
`attributes()` yields just the intent -/
theorem C18_minimal_eq_head (K : Ctx) (L : Lattice) {k : Nat} {c : LConcept} (hc : L[k]? = some c) :
    conceptMinimal K L k = (minimize K c.extent c.intent).head? ∧
    conceptMinimal K L k = (conceptAttributes K L k).head? := by
  have h1 : conceptMinimal K L k = (minimize K c.extent c.intent).head? := by
    unfold conceptMinimal
    rw [hc, Option.bind_some]
    split
    · next h => rw [h.2, C18_empty_extent_head]
    · rfl
  exact ⟨h1, by rw [h1, conceptAttributes, hc]⟩

/-- outside the lattice there is no concept -/
theorem C18_minimal_none (K : Ctx) (L : Lattice) {k : Nat} (hk : L.length ≤ k) :
    conceptMinimal K L k = none := by
  unfold conceptMinimal
  rw [List.getElem?_eq_none hk]
  rfl

/-- `minimal()` of a concept of `Context.lattice`: with a non-empty extent it is the shortlex-least
subset of the intent whose common objects are the extent (every other such subset is
shortlex-greater); with an empty extent it is the whole intent, i.e. all properties -/
theorem C18_minimal_first_attribute {K : Ctx} (hK : K.WF) {k : Nat} {c : LConcept}
    (hc : (mkLattice K)[k]? = some c) :
    (c.extent ≠ 0 → ∃ h, conceptMinimal K (mkLattice K) k = some h ∧ h ⊆ᵇ c.intent ∧
      K.extentOf h = c.extent ∧
      ∀ b, b ⊆ᵇ c.intent → K.extentOf b = c.extent → b = h ∨ shortlexLt K.m h b) ∧
    (c.extent = 0 → conceptMinimal K (mkLattice K) k = some c.intent ∧ c.intent = full K.m) := by
  rw [(C18_minimal_eq_head K _ hc).1]
  refine ⟨fun he => (C18_minimal_head hK (C18_lattice_isConcept hK hc) he).2, fun he => ?_⟩
  rw [he, C18_empty_extent_head]
  exact ⟨rfl, (C18_empty_extent_position hK hc he).2⟩

/-- the infimum's `minimal()`: all properties when no object has all properties; otherwise the
ordinary shortlex-least generator (the override defers to `Concept.minimal`) -/
theorem C18_infimum_minimal {K : Ctx} (hK : K.WF) :
    ∃ c, (mkLattice K)[0]? = some c ∧ c.extent = K.doubleObj 0 ∧
      (c.extent = 0 → conceptMinimal K (mkLattice K) 0 = some (full K.m)) ∧
      (c.extent ≠ 0 → conceptMinimal K (mkLattice K) 0 = (minimize K c.extent c.intent).head? ∧
        ∃ h, conceptMinimal K (mkLattice K) 0 = some h ∧ K.extentOf h = c.extent ∧
          ∀ b, b ⊆ᵇ c.intent → K.extentOf b = c.extent → b = h ∨ shortlexLt K.m h b) := by
  obtain ⟨c, hc, hce⟩ := (mkLattice_spec hK).get_zero
  obtain ⟨h1, h2⟩ := C18_minimal_first_attribute hK hc
  refine ⟨c, hc, hce, fun he => ?_, fun he => ⟨(C18_minimal_eq_head K _ hc).1, ?_⟩⟩
  · obtain ⟨a, b⟩ := h2 he
    rw [a, b]
  · obtain ⟨h, a, _, b, d⟩ := h1 he
    exact ⟨h, a, b, d⟩

/-- `attributes()` of a concept of `Context.lattice` with non-empty extent: exactly the subsets of its
intent whose common objects are its extent -/
theorem C18_lattice_attributes {K : Ctx} (hK : K.WF) {k : Nat} {c : LConcept}
    (hc : (mkLattice K)[k]? = some c) (he : c.extent ≠ 0) (b : Nat) :
    b ∈ conceptAttributes K (mkLattice K) k ↔ b ⊆ᵇ c.intent ∧ K.extentOf b = c.extent := by
  unfold conceptAttributes
  rw [hc]
  exact C18_attributes hK (C18_lattice_isConcept hK hc) he

/-- every yielded property set regenerates the concept: `lattice(b) is c` -/
theorem C18_lattice_regenerates {K : Ctx} (hK : K.WF) {k : Nat} {c : LConcept}
    (hc : (mkLattice K)[k]? = some c) {b : Nat} (hb : b ∈ conceptAttributes K (mkLattice K) k) :
    lookupProperties K (mkLattice K) b = some k := by
  unfold conceptAttributes at hb
  rw [hc] at hb
  rw [C18_regenerates_lookup _ hb (C18_lattice_isConcept hK hc)]
  exact (mkLattice_spec hK).find_get hc

/-- in particular `lattice(c.minimal()) is c` -/
theorem C18_minimal_regenerates {K : Ctx} (hK : K.WF) {k : Nat} {c : LConcept}
    (hc : (mkLattice K)[k]? = some c) :
    ∃ h, conceptMinimal K (mkLattice K) k = some h ∧ lookupProperties K (mkLattice K) h = some k := by
  have hcon := C18_lattice_isConcept hK hc
  -- the intent itself is yielded, so there is a first yield
  have hi : c.intent ∈ minimize K c.extent c.intent := by
    by_cases he : c.extent = 0
    · rw [he, C18_empty_extent]; exact List.mem_singleton_self _
    · exact (C18_minimal_head hK hcon he).1
  have hh := List.head?_eq_some_head (List.ne_nil_of_mem hi)
  rw [(C18_minimal_eq_head K _ hc).1]
  exact ⟨_, hh, (C18_regenerates_lookup _ (List.mem_of_head? hh) hcon).trans ((mkLattice_spec hK).find_get hc)⟩

/-! ### non-vacuity on lattices -/

/-- the lattice of the example: the infimum has no objects, its `minimal()` is all properties although
`{0, 2}` already has no common object -/
example : (mkLattice C18_exK).map (fun c => (c.extent, c.intent)) =
    [(0b000, 0b111), (0b010, 0b011), (0b100, 0b110), (0b011, 0b001), (0b110, 0b010), (0b111, 0b000)] := by
  decide +kernel
example : (List.range 6).map (conceptMinimal C18_exK (mkLattice C18_exK)) =
    [some 0b111, some 0b011, some 0b100, some 0b001, some 0b010, some 0b000] := by decide +kernel
example : C18_exK.extentOf 0b101 = 0 := by decide +kernel
example : conceptAttributes C18_exK (mkLattice C18_exK) 2 = [0b100, 0b110] := by decide +kernel

/-- an infimum WITH objects (object 3 has every property): here `Infimum.minimal` must defer to
`Concept.minimal` and yields `{3}`, not the full intent -/
def C18_exK2 : Ctx := mkCtx 4 4 #[0b0011, 0b0101, 0b0101, 0b1111]
example : C18_exK2.WF := mkCtx_WF rfl (by decide)
example : ((mkLattice C18_exK2)[0]?).map (fun c => (c.extent, c.intent)) = some (0b1000, 0b1111) := by
  decide +kernel
example : conceptMinimal C18_exK2 (mkLattice C18_exK2) 0 = some 0b1000 := by decide +kernel
example : conceptAttributes C18_exK2 (mkLattice C18_exK2) 0 =
    [0b1000, 0b1001, 0b0110, 0b1010, 0b1100, 0b0111, 0b1011, 0b1101, 0b1110, 0b1111] := by decide +kernel

end FCA

#print axioms FCA.C18_powerset_mem
#print axioms FCA.C18_powerset_sorted
#print axioms FCA.C18_powerset_nodup
#print axioms FCA.C18_powerset_levels
#print axioms FCA.C18_attributes_bounded
#print axioms FCA.C18_attributes
#print axioms FCA.C18_sorted
#print axioms FCA.C18_nodup
#print axioms FCA.C18_minimal_head
#print axioms FCA.C18_empty_extent
#print axioms FCA.C18_empty_extent_head
#print axioms FCA.C18_regenerates
#print axioms FCA.C18_regenerates_lookup
#print axioms FCA.C18_regenerates_intent
#print axioms FCA.C18_shortlex_asymm
#print axioms FCA.C18_empty_extent_position
#print axioms FCA.C18_minimal_eq_head
#print axioms FCA.C18_minimal_first_attribute
#print axioms FCA.C18_infimum_minimal
#print axioms FCA.C18_lattice_attributes
#print axioms FCA.C18_lattice_regenerates
#print axioms FCA.C18_minimal_regenerates
