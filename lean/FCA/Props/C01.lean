import FCA.Proofs.Galois
import FCA.Proofs.Members
/-
C01 — Derivation operators are exactly the Galois connection of the table.

Model: `Ctx.intentOf` / `Ctx.extentOf` (the trailing-zero skipping AND loop of `Vectors._pair_with`),
`mkCtx` (`Relation.__new__`), `membersW` (`members()`), `ofMembers` (`frommembers`).
-/
namespace FCA

/-- `intension(objects)` = exactly the properties every selected object has — for every context,
every width, every mask. (`K.has i j` is `j ∈ rows[i]`.) -/
theorem C01_intension (K : Ctx) (A : Nat) (_hA : Bounded K.n A) (j : Nat) :
    j ∈ᵇ K.intentOf A ↔ j < K.m ∧ ∀ i, i ∈ᵇ A → K.has i j := mem_intentOf

/-- `extension(properties)` = exactly the objects that have all selected properties -/
theorem C01_extension (K : Ctx) (h : K.WF) (B : Nat) (_hB : Bounded K.m B) (i : Nat) :
    i ∈ᵇ K.extentOf B ↔ i < K.n ∧ ∀ j, j ∈ᵇ B → K.has i j := mem_extentOf h

/-- the loop with *any* sufficient fuel gives the same answer: the bound used by the model is not
what makes the result right -/
theorem C01_fuel_irrelevant (other : Array Nat) (f1 f2 bitset i acc : Nat)
    (h1 : bitset < 2 ^ f1) (h2 : bitset < 2 ^ f2) :
    primeLoop other f1 bitset i acc = primeLoop other f2 bitset i acc :=
  ext fun j => (primeLoop_spec other f1 bitset i acc j h1).trans (primeLoop_spec other f2 bitset i acc j h2).symm

/-- the column vectors are the transpose of the row vectors -/
theorem C01_transpose (n m : Nat) (rows : Array Nat) (i j : Nat) (hi : i < n) (hj : j < m) :
    i ∈ᵇ (mkCtx n m rows).cols[j]! ↔ j ∈ᵇ (mkCtx n m rows).rows[i]! := by
  show i ∈ᵇ (colsOf n m rows)[j]! ↔ _
  rw [mem_colsOf]; simp [hi, hj, mkCtx]

/-- the empty collection derives to all properties … -/
theorem C01_empty_intension (K : Ctx) : K.intentOf 0 = full K.m := intentOf_zero K

/-- … resp. all objects -/
theorem C01_empty_extension (K : Ctx) (h : K.WF) : K.extentOf 0 = full K.n := extentOf_zero K

/-- the tuple form lists exactly the members, once each, in the context's own order -/
theorem C01_members (w s : Nat) :
    (membersW w s).Pairwise (· < ·) ∧ ∀ x, x ∈ membersW w s ↔ x < w ∧ x ∈ᵇ s :=
  ⟨membersW_sorted w s, fun _ => mem_membersW⟩

/-- duplicates and argument order do not matter: `frommembers` depends on the *set* of its arguments -/
theorem C01_ofMembers_congr (l l' : List Nat) (h : ∀ x, x ∈ l ↔ x ∈ l') : ofMembers l = ofMembers l' :=
  ofMembers_congr h

/-- the raw and the label-tuple result forms denote the same set -/
theorem C01_raw_vs_tuple (w s : Nat) (h : Bounded w s) : ofMembers (membersW w s) = s :=
  ofMembers_membersW h

/-- results stay inside the domain -/
theorem C01_bounded (K : Ctx) (h : K.WF) (A B : Nat) :
    Bounded K.m (K.intentOf A) ∧ Bounded K.n (K.extentOf B) :=
  ⟨bounded_intentOf A, bounded_extentOf B⟩

/-- `Context.intension(objects)` on index level: `frommembers → prime → members` -/
def intension (K : Ctx) (objs : List Nat) : List Nat := membersW K.m (K.intentOf (ofMembers objs))
/-- `Context.extension(properties)` on index level -/
def extension (K : Ctx) (props : List Nat) : List Nat := membersW K.n (K.extentOf (ofMembers props))

/-- the property in one statement: for any argument list (any order, with repeats) of object numbers,
`intension` lists exactly the properties every given object has, once each, in column order -/
theorem C01_intension_list (K : Ctx) (objs : List Nat) :
    (intension K objs).Pairwise (· < ·) ∧
    ∀ j, j ∈ intension K objs ↔ j < K.m ∧ ∀ i ∈ objs, K.has i j := by
  refine ⟨membersW_sorted _ _, fun j => ?_⟩
  unfold intension
  rw [mem_membersW, mem_intentOf]
  constructor
  · rintro ⟨h1, _, h2⟩; exact ⟨h1, fun i hi => h2 i (mem_ofMembers.mpr hi)⟩
  · rintro ⟨h1, h2⟩; exact ⟨h1, h1, fun i hi => h2 i (mem_ofMembers.mp hi)⟩

theorem C01_extension_list (K : Ctx) (h : K.WF) (props : List Nat) :
    (extension K props).Pairwise (· < ·) ∧
    ∀ i, i ∈ extension K props ↔ i < K.n ∧ ∀ j ∈ props, K.has i j := by
  have := C01_intension_list K.transpose props
  simp only [transpose_has h] at this
  exact this

/-- the raw result and the tuple result denote the same set -/
theorem C01_raw_tuple (K : Ctx) (objs : List Nat) :
    ofMembers (intension K objs) = K.intentOf (ofMembers objs) :=
  ofMembers_membersW (bounded_intentOf _)

/-! non-vacuity: a concrete 3×3 context (with an empty row) satisfies the hypotheses -/
def C01_exK : Ctx := mkCtx 3 3 #[0b011, 0b000, 0b110]
example : C01_exK.WF := mkCtx_WF rfl (by intro i hi; interval_cases i <;> decide)
example : Bounded C01_exK.n 0b101 := by rw [bounded_iff_lt]; decide

end FCA
#print axioms FCA.C01_intension
#print axioms FCA.C01_extension
#print axioms FCA.C01_raw_vs_tuple
