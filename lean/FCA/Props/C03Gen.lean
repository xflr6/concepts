import FCA.Generated.Lindig
import FCA.Generated.LindigLattice
import FCA.Model.Lindig
/-
C03 / C05 over the regenerated source. The body of the `for add in Objects.atomic(minimal)` loop of
`lindig.neighbors`, as translated from the current `lindig.py` by harness/extract.py and run over the candidate
atoms, is the model's `neighborsLoop`; the body of the `for n_extent, n_intent in neighbors(...)` loop of
`lindig.lattice` (harness/extract2.py), folded over the yielded neighbors, is the model's `linkNeighbors`. So
`C03_*` / `C05_*` (proved about `neighbors` and `lindigLoop`) speak about the loop bodies the source has now.
-/
namespace FCA

/-- one pass of the regenerated body is one step of the model's loop -/
theorem C03_generated_neighbors_body (K : Ctx) (objects g minimal : Nat) (acc : List (Nat × Nat)) :
    Generated.neighbors_body K.dpObj objects (2 ^ g) minimal acc =
      if andNot (K.dpObj (objects ||| 2 ^ g)).1 (objects ||| 2 ^ g) &&& minimal ≠ 0 then
        (andNot minimal (2 ^ g), acc)
      else (minimal, K.dpObj (objects ||| 2 ^ g) :: acc) := by
  simp only [Generated.neighbors_body]

/-- the regenerated loop body, folded over the candidates, is the model's loop -/
theorem C03_generated_neighbors_loop (K : Ctx) (objects : Nat) (gs : List Nat) (minimal : Nat)
    (acc : List (Nat × Nat)) :
    neighborsLoop K objects gs minimal acc =
      ((gs.foldl (fun s g => Generated.neighbors_body K.dpObj objects (2 ^ g) s.1 s.2) (minimal, acc)).2).reverse := by
  induction gs generalizing minimal acc with
  | nil => simp [neighborsLoop]
  | cons g gs ih =>
    rw [neighborsLoop, List.foldl_cons, C03_generated_neighbors_body]
    generalize K.dpObj (objects ||| 2 ^ g) = p
    obtain ⟨e, i⟩ := p
    dsimp only
    by_cases h : andNot e (objects ||| 2 ^ g) &&& minimal ≠ 0
    · rw [if_pos h, if_pos h]; exact ih _ _
    · rw [if_neg h, if_neg h]; exact ih _ _

/-- `lindig.neighbors(objects, Objects=...)` of the current source = the model's `neighbors` -/
theorem C03_generated_neighbors (K : Ctx) (objects : Nat) :
    neighbors K objects =
      (((membersW K.n (andNot (full K.n) objects)).foldl
        (fun s g => Generated.neighbors_body K.dpObj objects (2 ^ g) s.1 s.2)
        (andNot (full K.n) objects, [])).2).reverse := by
  simp only [neighbors, C03_generated_neighbors_loop]

/-- the regenerated body of `for n_extent, n_intent in neighbors(extent, Objects=Objects)`, folded over the yielded
neighbors, is the model's `linkNeighbors` (dict + mutable tuples read as the record list, heap as the list of pushed extents) -/
theorem C03_generated_lattice_body (e : Nat) (nbs : List (Nat × Nat)) (recs : List Rec) (heap : List Nat) :
    linkNeighbors e nbs recs heap =
      nbs.foldl (fun s nb => Generated.lattice_body e nb.1 nb.2 s.1 s.2) (recs, heap) := by
  induction nbs generalizing recs heap with
  | nil => simp [linkNeighbors]
  | cons nb nbs ih =>
    obtain ⟨ne, ni⟩ := nb
    rw [linkNeighbors, List.foldl_cons]
    simp only [Generated.lattice_body]
    split <;> exact ih _ _

/-- one iteration of `while heap:` of `lindig.lattice`, with the regenerated neighbor loop -/
theorem C03_generated_lattice_step (K : Ctx) (fuel : Nat) (heap : List Nat) (recs : List Rec) (order : List Nat) :
    lindigLoop K (fuel + 1) heap recs order =
      match minBy (shortlexKey K.n) heap with
      | none => (recs, order.reverse)
      | some e =>
        let s := (neighbors K e).foldl (fun s nb => Generated.lattice_body e nb.1 nb.2 s.1 s.2) (recs, heap.erase e)
        lindigLoop K fuel s.2 s.1 (e :: order) := by
  rw [lindigLoop]
  cases minBy (shortlexKey K.n) heap with
  | none => rfl
  | some e => simp only [C03_generated_lattice_body]

end FCA
#print axioms FCA.C03_generated_neighbors_body
#print axioms FCA.C03_generated_neighbors_loop
#print axioms FCA.C03_generated_neighbors
#print axioms FCA.C03_generated_lattice_body
#print axioms FCA.C03_generated_lattice_step
