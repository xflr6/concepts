import FCA.Generated.Defn
import FCA.Generated.Unique
import FCA.Proofs.Defn
/-
C13 over the regenerated source: all fifteen `Definition` mutators (`__setitem__`, `move_*`, `add_*`, `set_*`,
`remove_object/property`, `rename_object/property`, `remove_empty_objects/properties`, `union_update`, `intersection_update`), translated statement by statement from the current `definitions.py`, are the
corresponding cases of the model's `Defn.step` — about which `C13_*` are proved. (`rename_*` and `remove_empty_*` under the part of the invariant they need.)
Then `tools.Unique` with its two fields (`_seen`, `_items`), translated from the current `tools.py`: `add`, `replace`, `move`, `discard`
and `__init__` are the model's list primitives `uAdd`, `uReplace`, `uMove`, `filter`, `uniq` on the items, and a rejected call changes neither field.
-/
namespace FCA

theorem C13_uIor_uniq (l xs : List Name) : uIor l (uniq xs) = uIor l xs := by
  rw [uIor_eq, uIor_eq, uniq_filter, uniq_filter, uniq_of_nodup (nodup_uniq xs)]

theorem C13_contains_uniq (xs : List Name) (p : Name) : (uniq xs).contains p = xs.contains p := by
  rw [Bool.eq_iff_iff]; simp [mem_uniq]

theorem C13_generated_setitem (d : Defn) (o p : Name) (v : Bool) :
    Generated.defn_setitem d.objs d.props d.pairs o p v = (d.step (.setItem o p v)).map (·.1) := by
  cases v <;> rfl

theorem C13_generated_move_object (d : Defn) (o : Name) (i : Int) :
    Generated.defn_move_object d.objs d.props d.pairs o i = (d.step (.moveObject o i)).map (·.1) := by
  show (uMove d.objs o i >>= _) = Except.map _ (uMove d.objs o i >>= _)
  cases uMove d.objs o i <;> rfl

theorem C13_generated_move_property (d : Defn) (p : Name) (i : Int) :
    Generated.defn_move_property d.objs d.props d.pairs p i = (d.step (.moveProperty p i)).map (·.1) := by
  show (uMove d.props p i >>= _) = Except.map _ (uMove d.props p i >>= _)
  cases uMove d.props p i <;> rfl

theorem C13_generated_add_object (d : Defn) (o : Name) (ps : List Name) :
    Generated.defn_add_object d.objs d.props d.pairs o ps = (d.step (.addObject o ps)).map (·.1) := rfl

theorem C13_generated_add_property (d : Defn) (p : Name) (os : List Name) :
    Generated.defn_add_property d.objs d.props d.pairs p os = (d.step (.addProperty p os)).map (·.1) := rfl

/-- `set_object` of the current source (which first wraps the argument in `tools.Unique`, the D1 repair) -/
theorem C13_generated_set_object (d : Defn) (o : Name) (ps : List Name) :
    Generated.defn_set_object d.objs d.props d.pairs o ps = (d.step (.setObject o ps)).map (·.1) := by
  simp only [Generated.defn_set_object, Defn.step, C13_uIor_uniq, C13_contains_uniq]
  rfl

theorem C13_generated_set_property (d : Defn) (p : Name) (os : List Name) :
    Generated.defn_set_property d.objs d.props d.pairs p os = (d.step (.setProperty p os)).map (·.1) := by
  simp only [Generated.defn_set_property, Defn.step, C13_uIor_uniq, C13_contains_uniq]
  rfl

theorem C13_contains_row (props : List Name) (o : Name) (q : Name × Name) :
    (props.map fun p => (o, p)).contains q = (q.1 == o && props.contains q.2) := by
  obtain ⟨o', p'⟩ := q
  rw [Bool.eq_iff_iff]
  simp only [List.contains_iff_mem, List.mem_map, Prod.mk.injEq, Bool.and_eq_true, beq_iff_eq]
  exact ⟨fun ⟨p, hp, e1, e2⟩ => ⟨e1.symm, e2 ▸ hp⟩, fun ⟨e, hp⟩ => ⟨p', hp, e.symm, rfl⟩⟩

theorem C13_contains_col (objs : List Name) (p : Name) (q : Name × Name) :
    (objs.map fun o => (o, p)).contains q = (q.2 == p && objs.contains q.1) := by
  obtain ⟨o', p'⟩ := q
  rw [Bool.eq_iff_iff]
  simp only [List.contains_iff_mem, List.mem_map, Prod.mk.injEq, Bool.and_eq_true, beq_iff_eq]
  exact ⟨fun ⟨o, ho, e1, e2⟩ => ⟨e2.symm, e1 ▸ ho⟩, fun ⟨e, ho⟩ => ⟨o', ho, rfl, e.symm⟩⟩

/-- `remove_object`: `Unique.remove` (KeyError for an unknown name), then `difference_update` with the row of the current properties -/
theorem C13_generated_remove_object (d : Defn) (o : Name) :
    Generated.defn_remove_object d.objs d.props d.pairs o = (d.step (.removeObject o)).map (·.1) := by
  simp only [Generated.defn_remove_object, Defn.step, uRemove, pDifference, C13_contains_row]
  split <;> rfl

theorem C13_generated_remove_property (d : Defn) (p : Name) :
    Generated.defn_remove_property d.objs d.props d.pairs p = (d.step (.removeProperty p)).map (·.1) := by
  simp only [Generated.defn_remove_property, Defn.step, uRemove, pDifference, C13_contains_col]
  split <;> rfl

theorem C13_generated_union_update (d other : Defn) (ig : Bool) :
    Generated.defn_union_update d.objs d.props d.pairs other ig = (d.step (.unionUpdate other ig)).map (·.1) := by
  show (if _ then _ else _) = Except.map _ (if _ then _ else _)
  split <;> rfl

theorem C13_generated_intersection_update (d other : Defn) (ig : Bool) :
    Generated.defn_intersection_update d.objs d.props d.pairs other ig = (d.step (.intersectionUpdate other ig)).map (·.1) := by
  show (if _ then _ else _) = Except.map _ (if _ then _ else _)
  split <;> rfl

/-- the rename idiom of the source — the cells `R` with the old name are taken out (`difference_update`) and put back
relabelled by `g` (`|=`) — gives the cells of the model's relabelling of the whole list -/
theorem C13_mem_moved {pairs R : List (Name × Name)} {P : Name × Name → Bool} {g : Name × Name → Name × Name}
    (hR : ∀ c, c ∈ R ↔ c ∈ pairs ∧ P c = true) (q : Name × Name) :
    q ∈ (R.map g).foldl pAdd (pDifference pairs R) ↔ q ∈ pairs.map (fun c => if P c then g c else c) := by
  rw [mem_map_ite, mem_foldl_pAdd, pDifference, List.mem_filter, List.mem_map, Bool.not_eq_true', ← Bool.not_eq_true,
    List.contains_iff_mem, hR, ← Bool.not_eq_true, not_and]
  simp only [hR, and_assoc]
  exact or_congr_left (and_congr_right fun hq => ⟨fun h => h hq, fun h _ => h⟩)

/-- `rename_object` of the current source (`Unique.replace`, then the set comprehension that moves the cells of the old row by a
side effect — `pairs.remove` inside the filter — and the in-place union) has the model's effect: same names, the same *set* of true
cells, the same rejections — provided no true cell lies outside the listed properties (part of the invariant every definition
keeps, `C13_inv_history`) -/
theorem C13_generated_rename_object (d : Defn) (old new : Name) (hp : ∀ q ∈ d.pairs, q.2 ∈ d.props) :
    match Generated.defn_rename_object d.objs d.props d.pairs old new, d.step (.renameObject old new) with
    | .ok g, .ok (m, _) => g.objs = m.objs ∧ g.props = m.props ∧ ∀ q, q ∈ g.pairs ↔ q ∈ m.pairs
    | .error e, .error e' => e = e'
    | _, _ => False := by
  simp only [Generated.defn_rename_object, Defn.step]
  cases uReplace d.objs old new with
  | error e => exact rfl
  | ok objs' =>
    refine ⟨rfl, rfl, fun q => ?_⟩
    -- the moved cells are those of the old row: a cell of `old` has a listed property
    have hR : ∀ c, c ∈ ((d.props.filter fun p => d.pairs.contains (old, p)).map fun p => (old, p)) ↔
        c ∈ d.pairs ∧ (c.1 == old) = true := by
      rintro ⟨a, b⟩
      simp only [List.mem_map, List.mem_filter, List.contains_iff_mem, Prod.mk.injEq, beq_iff_eq]
      exact ⟨fun ⟨p, ⟨_, hc⟩, e1, e2⟩ => e1 ▸ e2 ▸ ⟨hc, rfl⟩, fun ⟨hc, e⟩ => ⟨b, ⟨hp _ hc, e ▸ hc⟩, e.symm, rfl⟩⟩
    have := C13_mem_moved (g := fun c => (new, c.2)) hR q
    rwa [List.map_map] at this

/-- likewise `rename_property` -/
theorem C13_generated_rename_property (d : Defn) (old new : Name) (hp : ∀ q ∈ d.pairs, q.1 ∈ d.objs) :
    match Generated.defn_rename_property d.objs d.props d.pairs old new, d.step (.renameProperty old new) with
    | .ok g, .ok (m, _) => g.objs = m.objs ∧ g.props = m.props ∧ ∀ q, q ∈ g.pairs ↔ q ∈ m.pairs
    | .error e, .error e' => e = e'
    | _, _ => False := by
  simp only [Generated.defn_rename_property, Defn.step]
  cases uReplace d.props old new with
  | error e => exact rfl
  | ok props' =>
    refine ⟨rfl, rfl, fun q => ?_⟩
    have hR : ∀ c, c ∈ ((d.objs.filter fun o => d.pairs.contains (o, old)).map fun o => (o, old)) ↔
        c ∈ d.pairs ∧ (c.2 == old) = true := by
      rintro ⟨a, b⟩
      simp only [List.mem_map, List.mem_filter, List.contains_iff_mem, Prod.mk.injEq, beq_iff_eq]
      exact ⟨fun ⟨o, ⟨_, hc⟩, e1, e2⟩ => e1 ▸ e2 ▸ ⟨hc, rfl⟩, fun ⟨hc, e⟩ => ⟨a, ⟨hp _ hc, e ▸ hc⟩, rfl, e.symm⟩⟩
    have := C13_mem_moved (g := fun c => (c.1, new)) hR q
    rwa [List.map_map] at this

/-- removing, one by one, names that are all present and pairwise different never raises and filters them out -/
theorem C13_foldlM_uRemove : ∀ (es l : List Name), es.Nodup → (∀ x ∈ es, x ∈ l) →
    es.foldlM (fun acc o => uRemove acc o) l = (.ok (l.filter fun x => !es.contains x) : Except Err (List Name)) := by
  intro es
  induction es with
  | nil => intro l _ _; simp; rfl
  | cons e es ih =>
    intro l hnd hsub
    obtain ⟨hne, hnd'⟩ := List.nodup_cons.mp hnd
    have h1 : uRemove l e = .ok (l.filter (· != e)) :=
      if_pos (List.contains_iff_mem.mpr (hsub e List.mem_cons_self))
    rw [List.foldlM_cons, h1]
    refine (ih (l.filter (· != e)) hnd' fun x hx => ?_).trans ?_
    · exact List.mem_filter.mpr ⟨hsub x (List.mem_cons_of_mem _ hx), bne_iff_ne.mpr fun e' => hne (e' ▸ hx)⟩
    · rw [List.filter_filter]
      exact congrArg Except.ok (List.filter_congr fun x _ => by
        rw [List.contains_cons, Bool.not_or, Bool.and_comm]; rfl)

theorem C13_contains_map {α : Type} (f : α → Name) (l : List α) (x : Name) :
    (l.map f).contains x = l.any fun a => f a == x := by
  induction l with
  | nil => rfl
  | cons a l ih => rw [List.map_cons, List.contains_cons, List.any_cons, ih, BEq.comm]

/-- `remove_empty_objects` of the current source (names occurring in a true cell, the empty ones in table order, `Unique.remove`
for each, the list returned) is the model's step — given that the object names are pairwise different (the invariant) -/
theorem C13_generated_remove_empty_objects (d : Defn) (hnd : d.objs.Nodup) :
    Generated.defn_remove_empty_objects d.objs d.props d.pairs = d.step .removeEmptyObjects := by
  simp only [Generated.defn_remove_empty_objects, Defn.step, C13_contains_map]
  rw [C13_foldlM_uRemove _ d.objs (hnd.filter _) (fun x hx => (List.mem_filter.mp hx).1)]
  rfl

theorem C13_generated_remove_empty_properties (d : Defn) (hnd : d.props.Nodup) :
    Generated.defn_remove_empty_properties d.objs d.props d.pairs = d.step .removeEmptyProperties := by
  simp only [Generated.defn_remove_empty_properties, Defn.step, C13_contains_map]
  rw [C13_foldlM_uRemove _ d.props (hnd.filter _) (fun x hx => (List.mem_filter.mp hx).1)]
  rfl

/-! ### `tools.Unique` with its two fields explicit (`_seen`, `_items`), translated from the current `tools.py`

`Generated.unique_*` return, when a statement raises, the state reached at that moment. Atomicity of a rejected `replace` / `move`
(the clause "a rejected call leaves no residue" of C13, broken by seeded changes C13-m1 and C13-r8m1, which register the new name
in `_seen` before the failing look-up) is therefore a theorem about the code, and the model's list primitives `uAdd`, `uReplace`,
`uMove` are *derived* from the two-field code under the class invariant `UState.Inv`. -/

theorem C13_inv_contains {u : UState} (h : u.Inv) (x : Name) : u.seen.contains x = u.items.contains x :=
  contains_eq_of_iff (h.2 x)

/-- a rejected `replace` / `move` leaves both fields exactly as they were (no hypothesis) -/
theorem C13_generated_unique_replace_atomic (seen items : List Name) (a b : Name) (e : Err) (u' : UState)
    (h : Generated.unique_replace seen items a b = .error (e, u')) : u' = ⟨seen, items⟩ := by
  unfold Generated.unique_replace at h
  split at h
  · cases h; rfl
  · split at h
    · cases h; rfl
    · split at h
      · cases h; rfl
      · cases h

theorem C13_generated_unique_move_atomic (seen items : List Name) (a : Name) (i : Int) (e : Err) (u' : UState)
    (h : Generated.unique_move seen items a i = .error (e, u')) : u' = ⟨seen, items⟩ := by
  unfold Generated.unique_move at h
  split at h
  · cases h; rfl
  · split at h <;> cases h

theorem C13_generated_unique_add_total (seen items : List Name) (a : Name) :
    ∃ u', Generated.unique_add seen items a = .ok u' := by
  unfold Generated.unique_add; split <;> exact ⟨_, rfl⟩

/-- `Unique.add` of the current source is the model's `uAdd` on the items and keeps the invariant -/
theorem C13_generated_unique_add (u : UState) (h : u.Inv) (a : Name) :
    ∃ u', Generated.unique_add u.seen u.items a = .ok u' ∧ u'.items = uAdd u.items a ∧ u'.Inv := by
  unfold Generated.unique_add
  rw [C13_inv_contains h]
  cases hc : u.items.contains a
  · have hu : uAdd u.items a = u.items ++ [a] := by rw [uAdd, hc]; rfl
    refine ⟨_, rfl, hu.symm, hu ▸ nodup_uAdd h.1, fun x => ?_⟩
    rw [sAdd, mem_addNew, List.mem_append, List.mem_singleton, h.2 x]
  · exact ⟨_, rfl, by rw [uAdd, hc]; rfl, h⟩

/-- `Unique.move` of the current source is the model's `uMove` (no hypothesis needed) -/
theorem C13_generated_unique_move (seen items : List Name) (a : Name) (i : Int) :
    (Generated.unique_move seen items a i).toOption.map (·.items) = (uMove items a i).toOption ∧
    ((Generated.unique_move seen items a i).toOption.isNone ↔ uMove items a i = .error .valueError) := by
  rw [Generated.unique_move, lIndex, findIdx?_beq, uMove_eq]
  by_cases h : a ∈ items
  · simp only [if_pos h, lPop, List.getD_eq_getElem?_getD, List.getElem?_idxOf h, Option.getD_some,
      ← List.erase_eq_eraseIdx_of_idxOf rfl, bne_iff_ne, ne_eq, ite_not]
    split <;> exact ⟨rfl, by simp [Except.toOption]⟩
  · simp only [if_neg h]; exact ⟨rfl, by simp [Except.toOption]⟩

/-- `l[idx] = b` at the position of `a` relabels `a` -/
theorem C13_set_idxOf_eq_map {l : List Name} {a : Name} (b : Name) (hn : l.Nodup) :
    l.set (l.idxOf a) b = l.map (fun x => if x == a then b else x) := by
  refine List.ext_getElem (by simp) fun k hk _ => ?_
  have hk' : k < l.length := by simpa using hk
  rw [List.getElem_set, List.getElem_map]
  by_cases h : l.idxOf a = k
  · subst h; rw [if_pos rfl, List.getElem_idxOf hk', if_pos (beq_self_eq_true a)]
  · rw [if_neg h, if_neg]; rw [beq_iff_eq]; exact fun e => h (e ▸ hn.idxOf_getElem k hk')

/-- `Unique.replace` of the current source: accepts exactly when the model's `uReplace` does, with the same items, and keeps the
class invariant; every rejection is a `ValueError` -/
theorem C13_generated_unique_replace (u : UState) (h : u.Inv) (a b : Name) :
    match Generated.unique_replace u.seen u.items a b with
    | .ok u' => uReplace u.items a b = .ok u'.items ∧ u'.Inv
    | .error (e, _) => e = .valueError ∧ uReplace u.items a b = .error .valueError := by
  rw [Generated.unique_replace, lIndex, findIdx?_beq, uReplace_eq, C13_inv_contains h b]
  by_cases hb : b ∈ u.items
  · rw [if_pos (List.contains_iff_mem.mpr hb), if_pos (Or.inl hb)]; exact ⟨rfl, rfl⟩
  · rw [if_neg (fun hc => hb (List.contains_iff_mem.mp hc))]
    by_cases ha : a ∈ u.items
    · rw [if_pos ha, if_neg (not_or.mpr ⟨hb, not_not_intro ha⟩)]
      simp only [sRemove, (C13_inv_contains h a).trans (List.contains_iff_mem.mpr ha), if_true, lSet,
        C13_set_idxOf_eq_map b h.1, true_and]
      refine ⟨nodup_replace h.1 hb, fun x => ?_⟩
      rw [sAdd, mem_addNew, mem_replace]
      simp only [List.mem_filter, h.2 x, bne_iff_ne, ne_eq, ha, and_true]
    · rw [if_neg ha, if_pos (Or.inr ha)]; exact ⟨rfl, rfl⟩

/-- `Unique.discard` of the current source never raises on a well-formed instance, removes the item and keeps the invariant -/
theorem C13_generated_unique_discard (u : UState) (h : u.Inv) (a : Name) :
    ∃ u', Generated.unique_discard u.seen u.items a = .ok u' ∧ u'.items = u.items.filter (· != a) ∧ u'.Inv := by
  rw [Generated.unique_discard, C13_inv_contains h a]
  cases ha : u.items.contains a
  · refine ⟨_, rfl, (List.filter_eq_self.mpr fun x hx => bne_iff_ne.mpr fun e => ?_).symm, h⟩
    exact Bool.false_ne_true (ha.symm.trans (List.contains_iff_mem.mpr (e ▸ hx)))
  · simp only [if_true, sRemove, (C13_inv_contains h a).trans ha, lRemove, ha]
    exact ⟨_, rfl, h.1.erase_eq_filter a, h.1.erase a, fun x => by
      simp only [List.mem_filter, h.2 x, bne_iff_ne, ne_eq, h.1.mem_erase_iff, and_comm]⟩

/-- the comprehension of `Unique.__init__` adds the items one by one: with `_seen` holding the members of
`_items`, each step is `uAdd` on the items -/
theorem C13_unique_init_fold : ∀ (l s it : List Name), (∀ x, x ∈ s ↔ x ∈ it) →
    let r := l.foldl (fun (s : List Name × List Name) item =>
      if !(s.1.contains item) then (sAdd s.1 item, s.2 ++ [item]) else s) (s, it)
    r.2 = uIor it l ∧ ∀ x, x ∈ r.1 ↔ x ∈ r.2 := by
  intro l
  induction l with
  | nil => intro s it h; exact ⟨rfl, h⟩
  | cons a l ih =>
    intro s it h
    have hu : uIor it (a :: l) = uIor (uAdd it a) l := rfl
    rw [List.foldl_cons, contains_eq_of_iff (h a), hu, uAdd]
    cases ha : it.contains a
    · refine ih (sAdd s a) (it ++ [a]) fun x => ?_
      rw [sAdd, mem_addNew, List.mem_append, List.mem_singleton, h x]
    · exact ih s it h

/-- `Unique(iterable)` of the current source keeps the first occurrences in order (the model's `uniq`) and establishes the invariant -/
theorem C13_generated_unique_init (l : List Name) :
    (Generated.unique_init l).items = uniq l ∧ (Generated.unique_init l).Inv := by
  obtain ⟨h1, h2⟩ := C13_unique_init_fold l [] [] (fun _ => Iff.rfl)
  have hi : (Generated.unique_init l).items = uniq l := by
    rw [show (Generated.unique_init l).items = _ from h1, uIor_eq]
    simp
  exact ⟨hi, hi ▸ nodup_uniq l, h2⟩

end FCA
#print axioms FCA.C13_generated_setitem
#print axioms FCA.C13_generated_move_object
#print axioms FCA.C13_generated_move_property
#print axioms FCA.C13_generated_add_object
#print axioms FCA.C13_generated_add_property
#print axioms FCA.C13_generated_set_object
#print axioms FCA.C13_generated_set_property
#print axioms FCA.C13_generated_union_update
#print axioms FCA.C13_generated_intersection_update
#print axioms FCA.C13_generated_remove_object
#print axioms FCA.C13_generated_remove_property
#print axioms FCA.C13_generated_unique_replace_atomic
#print axioms FCA.C13_generated_unique_move_atomic
#print axioms FCA.C13_generated_unique_add_total
#print axioms FCA.C13_generated_unique_add
#print axioms FCA.C13_generated_unique_move
#print axioms FCA.C13_generated_unique_replace
#print axioms FCA.C13_generated_unique_discard
#print axioms FCA.C13_generated_rename_object
#print axioms FCA.C13_generated_rename_property
#print axioms FCA.C13_generated_remove_empty_objects
#print axioms FCA.C13_generated_remove_empty_properties
#print axioms FCA.C13_generated_unique_init
