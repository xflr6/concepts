import FCA.Props.C13
import FCA.Proofs.DefnCtx
import FCA.Proofs.DefnHeap
import FCA.Model.Formats
/-
C14 — derived definitions are correct and unaliased; Context <-> Definition are inverse.

`union`, `intersection`, `take`, `transposed`, `inverted` return the mathematically expected table
as a new value; "shares no mutable state" is proved on the reference model `Model/DefnHeap.lean`
(`C14_heap_refines`, `C14_fresh`, `C14_no_alias*`, `C14_program_refines`); `Context(*definition)`
stores exactly the definition's table and vice versa, equal contexts = equal triples, shape / fill
count / table text agree.
-/
namespace FCA

/-- `d.union(e)`: cell-wise or; names of `e` appended in order; invariant kept -/
theorem C14_union_cells {d e u : Defn} {ig : Bool} (hd : d.Inv) (he : e.Inv)
    (h : d.union e ig = .ok u) :
    (∀ o p, (o, p) ∈ u.pairs ↔ (o, p) ∈ d.pairs ∨ (o, p) ∈ e.pairs) ∧
    u.objs = uIor d.objs e.objs ∧ u.props = uIor d.props e.props ∧ u.Inv := by
  obtain ⟨⟨u, r⟩, hs, rfl⟩ := map_eq_ok_iff.mp h
  have hi : u.Inv := inv_step (op := .unionUpdate e ig) hd he hs
  obtain ⟨_, rfl⟩ := step_unionUpdate_ok hs
  exact ⟨fun o p => mem_foldl_pAdd, rfl, rfl, hi⟩

/-- the same without the invariant (cells and names only) -/
theorem C14_union_cells' {d e u : Defn} {ig : Bool} (h : d.union e ig = .ok u) :
    (∀ o p, (o, p) ∈ u.pairs ↔ (o, p) ∈ d.pairs ∨ (o, p) ∈ e.pairs) ∧
    u.objs = d.objs ++ uniq (e.objs.filter (fun x => !d.objs.contains x)) ∧
    u.props = d.props ++ uniq (e.props.filter (fun x => !d.props.contains x)) := by
  obtain ⟨⟨u, r⟩, hs, rfl⟩ := map_eq_ok_iff.mp h
  obtain ⟨_, rfl⟩ := step_unionUpdate_ok hs
  exact ⟨fun o p => mem_foldl_pAdd, uIor_eq _ _, uIor_eq _ _⟩

example : exD.Inv ∧ exE.Inv ∧ ∃ u, exD.union exE false = .ok u ∧
    u.objs = ["o1", "o2", "o3"] ∧ u.bools = [[true, false, false], [false, true, false], [false, false, true]] :=
  ⟨exD_inv, exE_inv, exists_ok_of_decide (by decide +kernel)⟩

/-- `union` is rejected exactly when conflicts are not ignored and the operands differ on a
shared cell; the exception is `ValueError` -/
theorem C14_union_rejects_iff {d e : Defn} {ig : Bool} :
    (∃ err, d.union e ig = .error err) ↔ ig = false ∧ Conflict d e :=
  (exists_congr fun _ => map_eq_error_iff).trans (C13_reject_iff d (.unionUpdate e ig))

theorem C14_union_error_class {d e : Defn} {ig : Bool} {err : Err} (h : d.union e ig = .error err) :
    err = .valueError := C13_reject_class (map_eq_error_iff.mp h)

/-- with `ignore_conflicts` or without conflict the union exists -/
theorem C14_union_accepts_iff {d e : Defn} {ig : Bool} :
    (∃ u, d.union e ig = .ok u) ↔ ig = true ∨ ¬Conflict d e := by
  rw [ok_iff_not_error, C14_union_rejects_iff, not_and_or, Bool.not_eq_false]

example : exD.union exF false = .error .valueError := by decide +kernel
example : Conflict exD exF :=
  ⟨"o2", "p2", by decide +kernel, by decide +kernel, by decide +kernel, by decide +kernel, by decide +kernel⟩
example : ∃ u, exD.union exF true = .ok u ∧ u.getItem "o2" "p2" = .ok true := exists_ok_of_decide (by decide +kernel)

/-- `d.intersection(e)`: cell-wise and on the common names, in the order of `d` -/
theorem C14_intersection_cells {d e u : Defn} {ig : Bool} (hd : d.Inv) (he : e.Inv)
    (h : d.intersection e ig = .ok u) :
    (∀ o p, (o, p) ∈ u.pairs ↔ (o, p) ∈ d.pairs ∧ (o, p) ∈ e.pairs) ∧
    u.objs = uIand d.objs e.objs ∧ u.props = uIand d.props e.props ∧ u.Inv := by
  obtain ⟨⟨u, r⟩, hs, rfl⟩ := map_eq_ok_iff.mp h
  have hi : u.Inv := inv_step (op := .intersectionUpdate e ig) hd he hs
  obtain ⟨_, rfl⟩ := step_intersectionUpdate_ok hs
  refine ⟨fun o p => ?_, rfl, rfl, hi⟩
  simp [List.mem_filter]

/-- `uIand` keeps the names of the left operand that also occur on the right, in left order -/
theorem C14_uIand_spec (l xs : List Name) :
    (uIand l xs).Sublist l ∧ ∀ x, x ∈ uIand l xs ↔ x ∈ l ∧ x ∈ xs :=
  ⟨List.filter_sublist, fun _ => mem_uIand⟩

theorem C14_intersection_rejects_iff {d e : Defn} {ig : Bool} :
    (∃ err, d.intersection e ig = .error err) ↔ ig = false ∧ Conflict d e :=
  (exists_congr fun _ => map_eq_error_iff).trans (C13_reject_iff d (.intersectionUpdate e ig))

theorem C14_intersection_error_class {d e : Defn} {ig : Bool} {err : Err}
    (h : d.intersection e ig = .error err) : err = .valueError :=
  C13_reject_class (map_eq_error_iff.mp h)

example : exD.Inv ∧ exE.Inv ∧ ∃ u, exD.intersection exE false = .ok u ∧
    u.objs = ["o2"] ∧ u.props = ["p2"] ∧ u.bools = [[true]] :=
  ⟨exD_inv, exE_inv, exists_ok_of_decide (by decide +kernel)⟩
example : exD.intersection exF false = .error .valueError := by decide +kernel

theorem step_map_fst_ok_iff {d u : Defn} {op : Op} (hn : op.returnsNames = false) :
    (d.step op).map (·.1) = .ok u ↔ d.step op = .ok (u, []) :=
  map_eq_ok_iff.trans ⟨fun ⟨⟨_, r⟩, hs, hu⟩ => by rw [hs, ← hu, C13_return_none hs hn], fun hs => ⟨_, hs, rfl⟩⟩

/-- the derived value and the in-place operation agree -/
theorem C14_union_eq_unionUpdate {d e u : Defn} {ig : Bool} :
    d.union e ig = .ok u ↔ d.step (.unionUpdate e ig) = .ok (u, []) := step_map_fst_ok_iff rfl

theorem C14_intersection_eq_intersectionUpdate {d e u : Defn} {ig : Bool} :
    d.intersection e ig = .ok u ↔ d.step (.intersectionUpdate e ig) = .ok (u, []) := step_map_fst_ok_iff rfl

/-- `take`: the result is the sub-table on the kept names: names in the original order (or in the
requested order, first occurrences, with `reorder`), cells as in `d` -/
theorem C14_take {d t : Defn} {objects properties : Option (List Name)} {reorder : Bool}
    (h : d.take objects properties reorder = .ok t) :
    t.objs = takeNames d.objs objects reorder ∧ t.props = takeNames d.props properties reorder ∧
    (∀ o p, (o, p) ∈ t.pairs ↔ o ∈ t.objs ∧ p ∈ t.props ∧ (o, p) ∈ d.pairs) ∧
    (∀ o ∈ t.objs, o ∈ d.objs) ∧ (∀ p ∈ t.props, p ∈ d.props) ∧
    (∀ o ∈ t.objs, ∀ p ∈ t.props, t.getItem o p = d.getItem o p) := by
  obtain ⟨⟨hg1, hg2⟩, rfl⟩ := take_ok h
  have s1 := takeNames_subset (reorder := reorder) hg1
  have s2 := takeNames_subset (reorder := reorder) hg2
  refine ⟨rfl, rfl, fun o p => mem_subtable, s1, s2, fun o ho p hp => ?_⟩
  exact getItem_eq_of_iff (iff_of_true ho (s1 o ho)) (iff_of_true hp (s2 p hp))
    (mem_subtable.trans (and_iff_right ho |>.trans (and_iff_right hp)))

/-- `take` keeps the invariant; without `reorder` the kept names are a sublist of the original -/
theorem C14_take_inv {d t : Defn} {objects properties : Option (List Name)} {reorder : Bool}
    (hd : d.Inv) (h : d.take objects properties reorder = .ok t) : t.Inv := by
  obtain ⟨_, rfl⟩ := take_ok h
  exact Defn.inv_comprehension _ (nodup_takeNames hd.1 objects reorder) (nodup_takeNames hd.2.1 properties reorder)

theorem C14_take_order (l xs : List Name) :
    (takeNames l (some xs) false).Sublist l ∧ takeNames l (some xs) true = uniq xs ∧
    takeNames l none false = l ∧ takeNames l none true = l :=
  ⟨List.filter_sublist, rfl, rfl, rfl⟩

example : ∃ t, exD.take (some ["o2", "o1", "o2"]) (some ["p2"]) true = .ok t ∧
    t.objs = ["o2", "o1"] ∧ t.props = ["p2"] ∧ t.bools = [[true], [false]] :=
  exists_ok_of_decide (by decide +kernel)
example : ∃ t, exD.take (some ["o2", "o1", "o2"]) none false = .ok t ∧
    t.objs = ["o1", "o2"] ∧ t.props = ["p1", "p2"] := exists_ok_of_decide (by decide +kernel)
/-- the truthiness quirk: an empty (but given) list is not validated and selects nothing -/
example : ∃ t, exD.take (some []) none false = .ok t ∧ t.objs = [] ∧ t.props = ["p1", "p2"] :=
  exists_ok_of_decide (by decide +kernel)

/-- `take` raises exactly when some requested name is unknown (an empty or missing list requests
nothing) -/
theorem C14_take_keyerror {d : Defn} {objects properties : Option (List Name)} {reorder : Bool} :
    (∃ e, d.take objects properties reorder = .error e) ↔
      (∃ x ∈ objects.getD [], x ∉ d.objs) ∨ (∃ x ∈ properties.getD [], x ∉ d.props) := by
  rw [take_eq, ← take_guard_iff]
  exact ⟨fun ⟨_, h⟩ => (ite_error_eq_error_iff.mp h).1, fun h => ⟨_, ite_error_eq_error_iff.mpr ⟨h, rfl⟩⟩⟩

/-- the `KeyError` carries exactly the unknown names: unknown objects first, then unknown
properties, each in the given order, without repeats -/
theorem C14_take_keyerror_names {d : Defn} {objects properties : Option (List Name)} {reorder : Bool}
    {e : Err × List Name} (h : d.take objects properties reorder = .error e) :
    e.1 = .keyError ∧
    e.2 = uniq ((objects.getD []).filter (fun x => !d.objs.contains x)) ++
      (uniq ((properties.getD []).filter (fun x => !d.props.contains x))).filter
        (fun x => !(uniq ((objects.getD []).filter (fun x => !d.objs.contains x))).contains x) ∧
    e.2.Nodup ∧
    ∀ x, x ∈ e.2 ↔ (x ∈ objects.getD [] ∧ x ∉ d.objs) ∨ (x ∈ properties.getD [] ∧ x ∉ d.props) := by
  obtain ⟨_, rfl⟩ := ite_error_eq_error_iff.mp (take_eq d objects properties reorder ▸ h)
  refine ⟨rfl, take_notfound_eq d _ _, nodup_uIor (nodup_uniq _), fun x => ?_⟩
  simp only [mem_uIor, uRsub, mem_uniq, List.mem_filter, List.contains_eq_mem, Bool.not_eq_true',
    decide_eq_false_iff_not]

example : exD.take (some ["zz", "o1", "aa", "zz"]) (some ["p1", "qq", "aa"]) false
    = .error (.keyError, ["zz", "aa", "qq"]) := by decide +kernel

theorem C14_transposed_involutive (d : Defn) : d.transposed.transposed = d := transposed_transposed d

theorem C14_transposed_cells (d : Defn) :
    d.transposed.objs = d.props ∧ d.transposed.props = d.objs ∧
    (∀ o p, (p, o) ∈ d.transposed.pairs ↔ (o, p) ∈ d.pairs) ∧
    (∀ o p, d.transposed.getItem p o = d.getItem o p) :=
  ⟨rfl, rfl, fun _ _ => mem_transposed, fun o p => getItem_transposed d p o⟩

theorem C14_transposed_inv {d : Defn} (h : d.Inv) : d.transposed.Inv := h.transposed

example : exD.transposed.bools = [[true, false], [false, true]] ∧
    (exD.step (.setItem "o1" "p2" true)).toOption.map (·.1.transposed.bools)
      = some [[true, false], [true, true]] := ⟨by decide +kernel, by decide +kernel⟩

/-- `inverted`: complement of the cells inside `objs × props`, same names -/
theorem C14_inverted_cells (d : Defn) :
    d.inverted.objs = d.objs ∧ d.inverted.props = d.props ∧
    (∀ o p, (o, p) ∈ d.inverted.pairs ↔ o ∈ d.objs ∧ p ∈ d.props ∧ (o, p) ∉ d.pairs) ∧
    (∀ o p, d.inverted.getItem o p = (d.getItem o p).map (!·)) := by
  refine ⟨rfl, rfl, fun o p => mem_inverted, fun o p => ?_⟩
  show (if (d.objs.contains o && d.props.contains p) = true then Except.ok (d.inverted.pairs.contains (o, p)) else _) =
    Except.map _ (if (d.objs.contains o && d.props.contains p) = true then _ else _)
  split
  · rename_i h
    rw [Bool.and_eq_true, List.contains_iff_mem, List.contains_iff_mem] at h
    refine congrArg Except.ok (Bool.eq_iff_iff.mpr ?_)
    rw [List.contains_iff_mem, mem_inverted, Bool.not_eq_true', ← Bool.not_eq_true, List.contains_iff_mem]
    exact ⟨fun hh => hh.2.2, fun hh => ⟨h.1, h.2, hh⟩⟩
  · rfl

theorem C14_inverted_inv {d : Defn} (h : d.Inv) : d.inverted.Inv := by
  have := Defn.inv_comprehension (fun o p => !d.pairs.contains (o, p)) h.1 h.2.1
  rwa [← inverted_pairs] at this

theorem mem_inverted_inverted {d : Defn} {o p : Name} :
    (o, p) ∈ d.inverted.inverted.pairs ↔ o ∈ d.objs ∧ p ∈ d.props ∧ (o, p) ∈ d.pairs := by
  rw [mem_inverted, mem_inverted]
  exact ⟨fun ⟨ho, hp, hn⟩ => ⟨ho, hp, by_contra fun hne => hn ⟨ho, hp, hne⟩⟩,
    fun ⟨ho, hp, hop⟩ => ⟨ho, hp, fun hn => hn.2.2 hop⟩⟩

/-- without the invariant the table is still restored (residue cells are invisible in `bools`) -/
theorem C14_inverted_involutive_bools (d : Defn) : d.inverted.inverted.bools = d.bools :=
  (bools_eq_iff (d := d.inverted.inverted) (e := d) rfl rfl).mpr fun _ ho _ hp =>
    mem_inverted_inverted.trans (and_iff_right ho |>.trans (and_iff_right hp))

/-- `inverted` is an involution on proper definitions: same names in the same order, same table,
equal as definitions (the internal cell list is a set, its order is not observable) -/
theorem C14_inverted_involutive {d : Defn} (h : d.Inv) :
    d.inverted.inverted.objs = d.objs ∧ d.inverted.inverted.props = d.props ∧
    d.inverted.inverted.bools = d.bools ∧ d.inverted.inverted.eqv d = true ∧
    (∀ o p, (o, p) ∈ d.inverted.inverted.pairs ↔ (o, p) ∈ d.pairs) := by
  have hc : ∀ o p, (o, p) ∈ d.inverted.inverted.pairs ↔ (o, p) ∈ d.pairs := fun o p =>
    mem_inverted_inverted.trans ⟨fun hh => hh.2.2, fun hh => ⟨(h.mem hh).1, (h.mem hh).2, hh⟩⟩
  exact ⟨rfl, rfl, C14_inverted_involutive_bools d,
    eqv_iff.mpr ⟨fun _ => Iff.rfl, fun _ => Iff.rfl, fun ⟨o, p⟩ => hc o p⟩, hc⟩

example : exD.Inv ∧ exD.inverted.bools = [[false, true], [true, false]] ∧
    exD.inverted.inverted.eqv exD = true := ⟨exD_inv, by decide +kernel, by decide +kernel⟩

/-- the guard chain of `Context.__init__` accepts exactly: names non-empty, duplicate free,
disjoint, and a rectangular table -/
theorem C14_ctorAccepts_iff {os ps : List Name} {lens : List Nat} :
    ctorAccepts os ps lens = true ↔
      os ≠ [] ∧ os.Nodup ∧ ps ≠ [] ∧ ps.Nodup ∧ (∀ x ∈ os, x ∉ ps) ∧
      lens.length = os.length ∧ ∀ n ∈ lens, n = ps.length := ctorAccepts_iff os ps lens

/-- for a proper definition the shape clause always holds -/
theorem C14_ctorAccepts_defn {d : Defn} (h : d.Inv) :
    ctorAccepts d.objs d.props (d.bools.map (·.length)) = true ↔
      d.objs ≠ [] ∧ d.props ≠ [] ∧ ∀ x ∈ d.objs, x ∉ d.props := by
  rw [tripleOk_iff]
  exact ⟨fun ⟨a, _, b, _, c, _, _⟩ => ⟨a, b, c⟩,
    fun ⟨a, b, c⟩ => ⟨a, h.1, b, h.2.1, c, bools_length d, bools_row_length d⟩⟩

/-- an accepted triple gives a well-formed context that stores exactly the given table -/
theorem C14_ctxOfTriple_ok {os ps : List Name} {bs : List (List Bool)} {K : Ctx}
    (h : ctxOfTriple os ps bs = .ok K) :
    K.n = os.length ∧ K.m = ps.length ∧ K.WF ∧
    ∀ i j, (K.rows[i]!).testBit j = (bs.getD i []).getD j false := by
  obtain ⟨hacc, rfl⟩ := ctxOfTriple_eq_ok_iff.mp h
  obtain ⟨_, _, _, _, _, hl, hrow⟩ := tripleOk_iff.mp hacc
  refine ⟨rfl, rfl, mkCtx_rowMask_WF hl hrow, fun i j => ?_⟩
  rw [show (mkCtx _ _ _).rows = (bs.map rowMask).toArray from rfl, getElem!_map_toArray rowMask_nil, testBit_rowMask,
    List.getElem!_eq_getElem?_getD, List.getD_eq_getElem?_getD]
  rfl

/-- … and the table read back from the context is the table it was built from -/
theorem C14_ctxBools_of_triple {os ps : List Name} {bs : List (List Bool)} {K : Ctx}
    (h : ctxOfTriple os ps bs = .ok K) : ctxBools K = bs := by
  obtain ⟨hacc, rfl⟩ := ctxOfTriple_eq_ok_iff.mp h
  obtain ⟨_, _, _, _, _, hl, hrow⟩ := tripleOk_iff.mp hacc
  exact ctxBools_of_testBit hl hrow (C14_ctxOfTriple_ok h).2.2.2

/-- `Context(*definition)` stores exactly the definition's table, and reading the table back
(`Context.definition()`) gives the definition's `bools` again -/
theorem C14_ctx_def_inverse {d : Defn} {K : Ctx} (h : ctxOfTriple d.objs d.props d.bools = .ok K) :
    K.n = d.objs.length ∧ K.m = d.props.length ∧ K.WF ∧
    (∀ i j, (K.rows[i]!).testBit j = (d.bools.getD i []).getD j false) ∧
    (∀ i j (hi : i < d.objs.length) (hj : j < d.props.length),
      (K.rows[i]!).testBit j = d.pairs.contains (d.objs[i], d.props[j])) ∧
    ctxBools K = d.bools := by
  obtain ⟨h1, h2, h3, h4⟩ := C14_ctxOfTriple_ok h
  refine ⟨h1, h2, h3, h4, fun i j hi hj => ?_, C14_ctxBools_of_triple h⟩
  rw [h4]
  simp [Defn.bools, List.getD_eq_getElem?_getD, hi, hj]

/-- an accepted triple is rectangular with duplicate-free names, so `Definition(os, ps, bs)` is
accepted too and shows exactly the given table -/
theorem C14_ofTriple_of_accepted {os ps : List Name} {bs : List (List Bool)} {K : Ctx}
    (h : ctxOfTriple os ps bs = .ok K) :
    ∃ d, Defn.ofTriple os ps bs = .ok d ∧ d.Inv ∧ d.objs = os ∧ d.props = ps ∧ d.bools = bs := by
  obtain ⟨_, ho, _, hp, _, hl, hrow⟩ := tripleOk_iff.mp (ctxOfTriple_eq_ok_iff.mp h).1
  have hof := (ofTriple_eq os ps bs).trans (if_pos ⟨ho, hp⟩)
  exact ⟨_, hof, C13_inv_ofTriple hof, rfl, rfl, ofTriple_bools hof hl hrow⟩

/-- hence the definition rebuilt from the context equals the original one -/
theorem C14_def_ctx_def {d : Defn} {K : Ctx} (hd : d.Inv)
    (h : ctxOfTriple d.objs d.props d.bools = .ok K) :
    ∃ f, Defn.ofTriple d.objs d.props (ctxBools K) = .ok f ∧ d.eqv f = true ∧
      f.objs = d.objs ∧ f.props = d.props ∧ f.bools = d.bools := by
  obtain ⟨f, hf, _, h1, h2, h3⟩ := C14_ofTriple_of_accepted h
  have he := C13_fresh_eq hd
  rw [Defn.freshEq, hf] at he
  exact ⟨f, by rw [C14_ctxBools_of_triple h, hf], he, h1, h2, h3⟩

example : ∃ K, ctxOfTriple exD.objs exD.props exD.bools = .ok K ∧ K.rows = #[1, 2] ∧ K.cols = #[1, 2] :=
  exists_ok_of_decide (by decide +kernel)
example : exD.Inv ∧ ctorAccepts exD.objs exD.props (exD.bools.map (·.length)) = true :=
  ⟨exD_inv, by decide +kernel⟩

/-- Context → `definition()` → `Context(*definition)`: for an accepted triple the definition built
from it exists, and the context built from the definition's triple is the same context -/
theorem C14_def_ctx_roundtrip2 {os ps : List Name} {bs : List (List Bool)} {K : Ctx}
    (h : ctxOfTriple os ps bs = .ok K) :
    ∃ d, Defn.ofTriple os ps bs = .ok d ∧
      ctxOfTriple d.objs d.props d.bools = ctxOfTriple os ps bs ∧
      ctxOfTriple d.objs d.props d.bools = .ok K := by
  obtain ⟨d, hd, _, h1, h2, h3⟩ := C14_ofTriple_of_accepted h
  exact ⟨d, hd, by rw [h1, h2, h3], by rw [h1, h2, h3, h]⟩

example : ∃ K, ctxOfTriple ["o1", "o2"] ["p1", "p2"] [[true, false], [false, true]] = .ok K :=
  ⟨_, rfl⟩

/-- the same starting from an index-level context: reading the table back and constructing again
gives the same context (names only have to fit the shape and be acceptable) -/
theorem C14_ctx_def_ctx {K : Ctx} (h : K.WF) {os ps : List Name} (hn : K.n = os.length)
    (hm : K.m = ps.length) (hacc : ctorAccepts os ps (List.replicate K.n K.m) = true) :
    ctxOfTriple os ps (ctxBools K) = .ok K := by
  rw [ctxOfTriple_eq_ok_iff, map_length_ctxBools, ctxBools_rowMask h, ← hn, ← hm]
  exact ⟨hacc, h.mkCtx_eq.symm⟩
example : (mkCtx 2 2 #[1, 2]).WF ∧ ctorAccepts ["a", "b"] ["x", "y"] (List.replicate 2 2) = true ∧
    ctxOfTriple ["a", "b"] ["x", "y"] (ctxBools (mkCtx 2 2 #[1, 2])) = .ok (mkCtx 2 2 #[1, 2]) := by
  have hw : (mkCtx 2 2 #[1, 2]).WF :=
    mkCtx_WF rfl (by intro i hi; interval_cases i <;> decide)
  exact ⟨hw, by decide, C14_ctx_def_ctx hw rfl rfl (by decide)⟩

/-- two contexts are equal exactly when their triples are equal -/
theorem C14_ctx_eq_iff_triple {os ps os' ps' : List Name} {bs bs' : List (List Bool)} {K K' : Ctx}
    (h : ctxOfTriple os ps bs = .ok K) (h' : ctxOfTriple os' ps' bs' = .ok K') :
    (os = os' ∧ ps = ps' ∧ K = K') ↔ (os = os' ∧ ps = ps' ∧ bs = bs') := by
  constructor
  · rintro ⟨rfl, rfl, rfl⟩
    exact ⟨rfl, rfl, (C14_ctxBools_of_triple h).symm.trans (C14_ctxBools_of_triple h')⟩
  · rintro ⟨rfl, rfl, rfl⟩
    rw [h] at h'
    exact ⟨rfl, rfl, by cases h'; rfl⟩

example : ∃ K K', ctxOfTriple ["a", "b"] ["x"] [[true], [false]] = .ok K ∧
    ctxOfTriple ["a", "b"] ["x"] [[false], [true]] = .ok K' ∧ K.rows ≠ K'.rows :=
  ⟨_, _, rfl, rfl, by decide +kernel⟩

/-- `shape` and the numerator of `fill_ratio` agree between a definition and its context (the fill
ratios are these counts over `n * m`) -/
theorem C14_shape_fill {d : Defn} {K : Ctx} (hd : d.Inv)
    (h : ctxOfTriple d.objs d.props d.bools = .ok K) :
    K.n = d.shape.1 ∧ K.m = d.shape.2 ∧ ctxFillCount K = d.fillCount := by
  obtain ⟨h1, h2, _⟩ := C14_ctxOfTriple_ok h
  refine ⟨h1, h2, ?_⟩
  rw [ctxFillCount_eq, C14_ctxBools_of_triple h, bools_count_inv hd]
  rfl

example : exD.Inv ∧ ∃ K, ctxOfTriple exD.objs exD.props exD.bools = .ok K ∧
    ctxFillCount K = 2 ∧ exD.fillCount = 2 ∧ exD.shape = (2, 2) :=
  ⟨exD_inv, exists_ok_of_decide (by decide +kernel)⟩

/-- without the invariant the counts differ: a residue cell is counted by the definition only -/
example : ∃ K, ctxOfTriple ["o1"] ["p1"] (Defn.bools ⟨["o1"], ["p1"], [("o1", "p1"), ("gone", "p1")]⟩) = .ok K ∧
    ctxFillCount K = 1 ∧ Defn.fillCount ⟨["o1"], ["p1"], [("o1", "p1"), ("gone", "p1")]⟩ = 2 :=
  exists_ok_of_decide (by decide +kernel)

/-- context and definition print the same table (and have the same `crc32`, …): both pass the same
`(objects, properties, bools)` triple to the same function -/
theorem C14_table_text {d : Defn} {K : Ctx} (h : ctxOfTriple d.objs d.props d.bools = .ok K)
    (indent : Nat) :
    dumpTable indent (d.objs.map String.toList) (d.props.map String.toList) (ctxBools K) =
      dumpTable indent (d.objs.map String.toList) (d.props.map String.toList) d.bools ∧
    ∀ {β : Type} (f : List Name → List Name → List (List Bool) → β),
      f d.objs d.props (ctxBools K) = f d.objs d.props d.bools := by
  rw [C14_ctxBools_of_triple h]
  exact ⟨rfl, fun _ => rfl⟩

/-- in the value model, editing one definition of a collection leaves all others unchanged.  This is
a fact about lists only; that the value model is adequate — deriving methods return objects that
share no mutable state with their sources — is `C14_heap_refines`, `C14_fresh`, `C14_no_alias*` and
`C14_program_refines` below. -/
theorem C14_frame (ds : List Defn) (i j : Nat) (d' : Defn) (hij : i ≠ j) :
    (ds.set i d')[j]? = ds[j]? := List.getElem?_set_ne hij

/-! `FCA/Model/DefnHeap.lean` models `Definition` objects as triples of addresses of mutable objects on a
heap.  The value model (`Model/Defn.lean`) is what one reads through a reference. -/

def exHeap : Heap :=
  [.names exD.objs, .names exD.props, .cells exD.pairs, .names exE.objs, .names exE.props, .cells exE.pairs]
def exR : DRef := ⟨0, 1, 2⟩
def exR' : DRef := ⟨3, 4, 5⟩

example : exR.Valid exHeap ∧ exR'.Valid exHeap ∧ exR.Disjoint exR' ∧
    exHeap.read exR = exD ∧ exHeap.read exR' = exE := by decide +kernel

/-- every heap operation, read back, is the value-level operation: the fifteen mutators (the operand
of an in-place union / intersection being the receiver itself or a separate object), and the six
deriving methods; a deriving method leaves every existing object — in particular its sources — as it
was -/
theorem C14_heap_refines (h : Heap) (r : DRef) (hv : r.Valid h) :
    (∀ op : HOp, op.Compat r →
      (h.step r op).map (fun x => (x.1.read r, x.2)) = (h.read r).step (op.toOp h.read)) ∧
    (∀ op : DOp, (∀ o ∈ op.refs, o.Valid h) →
      (h.derive r op).map (fun x => x.1.read x.2) = (h.read r).derive h.read op) ∧
    (∀ (op : DOp) (h' : Heap) (res : DRef), h.derive r op = .ok (h', res) →
      ∀ r', r'.Valid h → h'.read r' = h.read r') := by
  exact ⟨fun op hc => step_refines hv hc, fun op hor => derive_refines hor,
    fun op h' res hs r' hv' => read_of_prefix hv' (derive_fresh hs).2.2⟩

example : exR.Valid exHeap ∧ (HOpG.unionUpdate exR' false).Compat exR ∧
    (HOpG.unionUpdate exR false).Compat exR ∧ (∀ o ∈ (DOpG.union exR' false).refs, o.Valid exHeap) :=
  ⟨by decide, Or.inr (by decide), Or.inl rfl, fun o ho => by
    simp only [DOpG.refs, List.mem_singleton] at ho; subst ho; decide⟩

/-- the deriving methods spelled out -/
theorem C14_heap_refines_derived (h : Heap) (r other : DRef) (ho : other.Valid h) :
    (h.copy r).1.read (h.copy r).2 = h.read r ∧
    (h.inverted r).1.read (h.inverted r).2 = (h.read r).inverted ∧
    (h.transposed r).1.read (h.transposed r).2 = (h.read r).transposed ∧
    (∀ a b ro, (h.take r a b ro).map (fun x => x.1.read x.2) = (h.read r).take a b ro) ∧
    (∀ ig, (h.union r other ig).map (fun x => x.1.read x.2) = (h.read r).union (h.read other) ig) ∧
    (∀ ig, (h.intersection r other ig).map (fun x => x.1.read x.2) =
      (h.read r).intersection (h.read other) ig) := by
  refine ⟨?_, read_new _ _, read_new _ _, ?_, fun ig => union_refines ho,
    fun ig => intersection_refines ho⟩
  · rw [Heap.copy, read_new, copy_eq]
  · intro a b ro
    have := derive_refines (h := h) (r := r) (op := .take a b ro) (by simp [DOpG.refs])
    simpa only [Heap.derive, Defn.derive] using this

/-- the object returned by a deriving method consists of three new addresses (not below the old heap
size), pairwise different; hence it is disjoint from every object that existed before; the old part
of the heap is unchanged -/
theorem C14_fresh {h h' : Heap} {r res : DRef} {op : DOp} (hs : h.derive r op = .ok (h', res)) :
    res = ⟨h.length, h.length + 1, h.length + 2⟩ ∧ (∀ a ∈ res.addrs, h.length ≤ a) ∧
    res.Valid h' ∧ h'.length = h.length + 3 ∧ (∀ a, a < h.length → h'[a]? = h[a]?) ∧
    ∀ r', r'.Valid h → r'.Disjoint res ∧ res.Disjoint r' := by
  obtain ⟨hres, hl, hu⟩ := derive_fresh hs
  subst hres
  have hge := next_addrs_ge h.length
  refine ⟨rfl, hge, valid_next hl.ge, hl, hu, fun r' hv' => ?_⟩
  exact ⟨disjoint_of_le hv' hge, (disjoint_of_le hv' hge).symm⟩

example : ∃ h' res, exHeap.derive exR (.union exR' false) = .ok (h', res) ∧ res = ⟨6, 7, 8⟩ ∧
    h'.read res = ⟨["o1", "o2", "o3"], ["p1", "p2", "p3"], [("o1", "p1"), ("o2", "p2"), ("o3", "p3")]⟩ :=
  exists_ok_pair_of_decide (by decide +kernel)

/-- a mutator writes to the three objects of its receiver only: it keeps the heap size, leaves every
other address alone, and so every object with a disjoint address set reads the same afterwards -/
theorem C14_no_alias {h h' : Heap} {r r' : DRef} {op : HOp} {ret : List Name} (hd : r.Disjoint r')
    (hs : h.step r op = .ok (h', ret)) :
    h'.read r' = h.read r' ∧ h'.length = h.length ∧ ∀ a, a ∉ r.addrs → h'[a]? = h[a]? :=
  ⟨step_frame hd hs, (step_untouched hs).1, (step_untouched hs).2⟩

/-- … for every history of mutator calls on objects disjoint from `r'` -/
theorem C14_no_alias_history (h : Heap) (r' : DRef) (steps : List (DRef × HOp))
    (hd : ∀ s ∈ steps, s.1.Disjoint r') : (h.run steps).read r' = h.read r' := by
  apply read_congr
  intro a ha
  exact (run_untouched h steps).2 a fun s hs ha' => hd s hs a ha' ha

/-- source and result of a deriving method: editing either side afterwards — any history of
mutator calls, on the result or on objects that existed before — never changes the other -/
theorem C14_no_alias_derived {h h1 : Heap} {r res : DRef} {op : DOp}
    (hs : h.derive r op = .ok (h1, res)) :
    (∀ r', r'.Valid h → ∀ steps : List (DRef × HOp), (∀ s ∈ steps, s.1 = res) →
      (h1.run steps).read r' = h.read r') ∧
    (∀ steps : List (DRef × HOp), (∀ s ∈ steps, s.1.Valid h) →
      (h1.run steps).read res = h1.read res) := by
  obtain ⟨_, _, _, _, hu, hdis⟩ := C14_fresh hs
  constructor
  · intro r' hv' steps hst
    rw [C14_no_alias_history h1 r' steps (fun s hs' => by rw [hst s hs']; exact (hdis r' hv').2)]
    exact read_of_prefix hv' hu
  · intro steps hst
    exact C14_no_alias_history h1 res steps (fun s hs' => (hdis s.1 (hst s hs')).1)

example : exR.Valid exHeap ∧ ∃ h1 res, exHeap.derive exR .copy = .ok (h1, res) ∧
    ((h1.run [(res, .plain (.setItem "o9" "p9" true))]).read exR = exD) ∧
    ((h1.run [(exR, .plain (.removeObject "o1"))]).read res = exD) :=
  ⟨by decide +kernel, exists_ok_pair_of_decide (by decide +kernel)⟩

/-- whole programs — definitions created, mutated and derived from each other in any order, every
variable bound once: running with reference semantics on the heap and running with value semantics on
a plain list of values (as the test driver does) give the same values and show the same return
values and exceptions; no two variables ever share an object -/
theorem C14_program_refines (cs : List Cmd) :
    ((PState.mk [] []).execAll cs).1.WF ∧
    ((PState.mk [] []).execAll cs).1.vals = (vexecAll [] cs).1 ∧
    ((PState.mk [] []).execAll cs).2 = (vexecAll [] cs).2 :=
  execAll_sim wf_init cs

example : (vexecAll [] [.create ["a"] ["x"] [[true]], .derive 0 .copy, .mutate 1 (.plain (.setItem "b" "x" true)),
      .mutate 0 (.unionUpdate 1 false), .derive 0 (.intersection 1 false)]).1.map Defn.bools =
    [[[true], [true]], [[true], [true]], [[true], [true]]] := by decide +kernel

end FCA

open FCA in
#print axioms C14_union_cells
open FCA in
#print axioms C14_union_rejects_iff
open FCA in
#print axioms C14_union_accepts_iff
open FCA in
#print axioms C14_intersection_cells
open FCA in
#print axioms C14_intersection_rejects_iff
open FCA in
#print axioms C14_take
open FCA in
#print axioms C14_take_inv
open FCA in
#print axioms C14_take_keyerror
open FCA in
#print axioms C14_take_keyerror_names
open FCA in
#print axioms C14_transposed_involutive
open FCA in
#print axioms C14_transposed_cells
open FCA in
#print axioms C14_transposed_inv
open FCA in
#print axioms C14_inverted_cells
open FCA in
#print axioms C14_inverted_inv
open FCA in
#print axioms C14_inverted_involutive
open FCA in
#print axioms C14_ctorAccepts_iff
open FCA in
#print axioms C14_ctorAccepts_defn
open FCA in
#print axioms C14_ctxOfTriple_ok
open FCA in
#print axioms C14_ctx_def_inverse
open FCA in
#print axioms C14_def_ctx_def
open FCA in
#print axioms C14_frame
open FCA in
#print axioms C14_ofTriple_of_accepted
open FCA in
#print axioms C14_def_ctx_roundtrip2
open FCA in
#print axioms C14_ctx_def_ctx
open FCA in
#print axioms C14_ctx_eq_iff_triple
open FCA in
#print axioms C14_ctxBools_of_triple
open FCA in
#print axioms C14_shape_fill
open FCA in
#print axioms C14_table_text
open FCA in
#print axioms C14_heap_refines
open FCA in
#print axioms C14_heap_refines_derived
open FCA in
#print axioms C14_fresh
open FCA in
#print axioms C14_no_alias
open FCA in
#print axioms C14_no_alias_history
open FCA in
#print axioms C14_no_alias_derived
open FCA in
#print axioms C14_program_refines
