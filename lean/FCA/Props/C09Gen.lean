import FCA.Generated.Iterunion
import FCA.Generated.Predicates
import FCA.Model.Lattice
/-
C09 over the regenerated source: the body of the `while heap:` loop of `algorithms.common.iterunion` as translated
from the current `common.py`, and the configuration (comparison for `tools.maximal`, sort key, neighbor attribute) that
`Concept.upset/downset` and `Lattice.upset_union/downset_union` of the current source hand to it, give the model's
`iterunionLoop`, `upsetUnion`, `downsetUnion` — about which `C09_*` are proved.
-/
namespace FCA

theorem C09_generated_push (l heap : List Nat) : l.foldl (fun heap c => heap ++ [c]) heap = heap ++ l := by
  induction l generalizing heap with
  | nil => simp
  | cons a l ih => simp [ih]

/-- one iteration of `while heap:` with the regenerated body; Python's `seen` (an int starting at `-1`) is the model's
counter minus one -/
theorem C09_generated_iterunion_step (key : Nat → Nat) (next : Nat → List Nat) (fuel : Nat) (heap : List Nat)
    (seen : Nat) (acc : List Nat) :
    iterunionLoop key next (fuel + 1) heap seen acc =
      match minBy key heap with
      | none => acc.reverse
      | some c =>
        let s := Generated.iterunion_body next (key c) c ((seen : Int) - 1) (heap.erase c) acc
        iterunionLoop key next fuel s.2.1 (s.1 + 1).toNat s.2.2 := by
  rw [iterunionLoop]
  cases minBy key heap with
  | none => rfl
  | some c =>
    simp only [Generated.iterunion_body, C09_generated_push]
    by_cases h : key c ≥ seen
    · rw [if_pos h, if_pos (Int.sub_one_lt_iff.mpr (Int.ofNat_le.mpr h)), Int.toNat_natCast_add_one]
    · rw [if_neg h, if_neg fun hlt => h (Int.ofNat_le.mp (Int.sub_one_lt_iff.mp hlt)), Int.sub_add_cancel,
        Int.toNat_natCast]

/-- `seen = -1` before the loop is the model's initial counter `0` -/
theorem C09_generated_iterunion_init : ((0 : Nat) : Int) - 1 = -1 := by omega

/-- the comparison a traversal hands to `tools.maximal`, by the name of the `Concept` method, evaluated with the
predicate kernels regenerated from `lattice_members.py` -/
def C09_cmpOfName (L : Lattice) (t : Nat) : String → Option (Nat → Nat → Bool)
  | "properly_subsumes" => some fun x y => Generated.properly_subsumes (L.extentAt x) (L.extentAt y) t
  | "properly_implies" => some fun x y => Generated.properly_implies (L.extentAt x) (L.extentAt y) t
  | "subsumes" => some fun x y => Generated.subsumes (L.extentAt x) (L.extentAt y) t
  | "implies" => some fun x y => Generated.implies (L.extentAt x) (L.extentAt y) t
  | _ => none

def C09_keyOfName (L : Lattice) : String → Option (Nat → Nat)
  | "index" => some id
  | "dindex" => some L.dindexAt
  | _ => none

def C09_nextOfName (L : Lattice) : String → Option (Nat → List Nat)
  | "upper_neighbors" => some L.upperAt
  | "lower_neighbors" => some L.lowerAt
  | _ => none

/-- a traversal entry point, read off its regenerated configuration: seeds reduced by `tools.maximal` with the named
comparison (or taken as they are for `""`: `Concept.upset/downset` pass `[self]`), then `iterunion` -/
def C09_traverse (L : Lattice) (t : Nat) (cfg : String × String × String) (cs : List Nat) : Option (List Nat) :=
  match C09_keyOfName L cfg.2.1, C09_nextOfName L cfg.2.2 with
  | some key, some next =>
    if cfg.1 = "" then some (iterunion key next (L.travFuel cs) cs)
    else match C09_cmpOfName L t cfg.1 with
      | some cmp => let seeds := maximalBy cmp cs; some (iterunion key next (L.travFuel seeds) seeds)
      | none => none
  | _, _ => none

/-- `Lattice.upset_union` of the current source is the model's `upsetUnion` -/
theorem C09_generated_upset_union (L : Lattice) (t : Nat) (cs : List Nat) :
    C09_traverse L t Generated.upset_union_cfg cs = some (upsetUnion L cs) := by
  simp [C09_traverse, Generated.upset_union_cfg, C09_keyOfName, C09_nextOfName, C09_cmpOfName, upsetUnion,
    Generated.properly_subsumes]

/-- `Lattice.downset_union` of the current source is the model's `downsetUnion` -/
theorem C09_generated_downset_union (L : Lattice) (t : Nat) (cs : List Nat) :
    C09_traverse L t Generated.downset_union_cfg cs = some (downsetUnion L cs) := by
  simp [C09_traverse, Generated.downset_union_cfg, C09_keyOfName, C09_nextOfName, C09_cmpOfName, downsetUnion,
    Generated.properly_implies]

-- `C09.maximalBy_singleton` once more: the `CxxGen` files import `Generated` and `Model` only, no proof module
theorem C09_generated_maximal_single (cmp : Nat → Nat → Bool) (c : Nat) : maximalBy cmp [c] = [c] := by
  simp [maximalBy, List.eraseDups, List.eraseDupsBy, List.eraseDupsBy.loop]

/-- `Concept.upset()` of the current source is the model's `upsetUnion` of the singleton -/
theorem C09_generated_upset (L : Lattice) (t c : Nat) :
    C09_traverse L t Generated.upset_cfg [c] = some (upsetUnion L [c]) := by
  simp [C09_traverse, Generated.upset_cfg, C09_keyOfName, C09_nextOfName, upsetUnion, C09_generated_maximal_single]

/-- `Concept.downset()` of the current source is the model's `downsetUnion` of the singleton -/
theorem C09_generated_downset (L : Lattice) (t c : Nat) :
    C09_traverse L t Generated.downset_cfg [c] = some (downsetUnion L [c]) := by
  simp [C09_traverse, Generated.downset_cfg, C09_keyOfName, C09_nextOfName, downsetUnion, C09_generated_maximal_single]

end FCA
#print axioms FCA.C09_generated_iterunion_step
#print axioms FCA.C09_generated_upset_union
#print axioms FCA.C09_generated_downset_union
#print axioms FCA.C09_generated_upset
#print axioms FCA.C09_generated_downset
