import FCA.Proofs.Bits
import FCA.Generated.Loops
/-
C01 / C02 for the loop bodies regenerated by harness/extract.py from the three closures
`prime`, `double`, `doubleprime` of `Vectors._pair_with` in the current `concepts/matrices.py`
(five textual copies of the trailing-zero skipping loop): every copy is the loop body of the model, and
every closure is the composition of derivations the model uses. Re-checked on every run.
-/
namespace FCA

/-- running the model's loop body with `iterLoop` is `primeLoop` -/
theorem iterLoop_canonStep (other : Array Nat) (fuel b i acc : Nat) :
    iterLoop (canonStep other) fuel b i acc = primeLoop other fuel b i acc := by
  induction fuel generalizing b i acc with
  | zero => rfl
  | succ f ih =>
    unfold iterLoop primeLoop
    by_cases hb : b = 0
    · simp [hb]
    · simp only [hb, if_false]
      unfold canonStep
      by_cases hs : tz b = 0
      · simp only [hs, if_true]; exact ih _ _ _
      · simp only [hs, if_false]; exact ih _ _ _

/-- two loop bodies that agree on every non-empty loop variable run the same loop (the loop never calls its body on 0) -/
theorem iterLoop_congr {s1 s2 : Nat → Nat → Nat → Nat × Nat × Nat}
    (h : ∀ b i acc, b ≠ 0 → s1 b i acc = s2 b i acc) (fuel b i acc : Nat) :
    iterLoop s1 fuel b i acc = iterLoop s2 fuel b i acc := by
  induction fuel generalizing b i acc with
  | zero => rfl
  | succ f ih =>
    unfold iterLoop
    by_cases hb : b = 0
    · simp [hb]
    · simp only [hb, if_false]
      rw [h b i acc hb]
      exact ih _ _ _

/-- each regenerated loop body acts like the model's loop body whenever the loop runs it (loop variable ≠ 0);
the script accepts both ways of writing the test (`not shift` after computing the trailing zeros, or `b & 1` first) -/
theorem C01_generated_loop_bodies (other self : Array Nat) (b i acc : Nat) (hb : b ≠ 0) :
    Generated.prime_loop1 other self b i acc = canonStep other b i acc ∧
    Generated.double_loop1 other self b i acc = canonStep other b i acc ∧
    Generated.double_loop2 other self b i acc = canonStep self b i acc ∧
    Generated.doubleprime_loop1 other self b i acc = canonStep other b i acc ∧
    Generated.doubleprime_loop2 other self b i acc = canonStep self b i acc := by
  have hodd := tz_eq_zero_iff_odd hb
  -- in either case every body and `canonStep` reduce to the same triple; `Nat.and_one_is_mod` and the parity of `b`
  -- serve a body that tests `b & 1` (none does at present, so `simp` reports them as unused)
  by_cases hs : tz b = 0
  · have h1 : b % 2 = 1 := hodd.mp hs
    simp [Generated.prime_loop1, Generated.double_loop1, Generated.double_loop2,
      Generated.doubleprime_loop1, Generated.doubleprime_loop2, canonStep, Nat.and_one_is_mod, hs, h1]
  · have h0 : b % 2 = 0 := (Nat.mod_two_eq_zero_or_one b).resolve_right fun h => hs (hodd.mpr h)
    simp [Generated.prime_loop1, Generated.double_loop1, Generated.double_loop2,
      Generated.doubleprime_loop1, Generated.doubleprime_loop2, canonStep, Nat.and_one_is_mod, hs, h0]

/-- `prime(bitset)` in the source is the model's `primeOf` -/
theorem C01_generated_prime (other self : Array Nat) (P D b : Nat) :
    Generated.prime other self P D b = primeOf other P b := by
  unfold Generated.prime primeOf
  rw [iterLoop_congr (fun b i acc hb => (C01_generated_loop_bodies other self b i acc hb).1), iterLoop_canonStep]

/-- `double(bitset)` in the source is the composition of the two derivations -/
theorem C01_generated_double (other self : Array Nat) (P D b : Nat) :
    Generated.double other self P D b = primeOf self D (primeOf other P b) := by
  unfold Generated.double primeOf
  simp only [iterLoop_congr (fun b i acc hb => (C01_generated_loop_bodies other self b i acc hb).2.1),
    iterLoop_congr (fun b i acc hb => (C01_generated_loop_bodies other self b i acc hb).2.2.1), iterLoop_canonStep]

/-- `doubleprime(bitset)` in the source returns `(double, prime)` of the model -/
theorem C01_generated_doubleprime (other self : Array Nat) (P D b : Nat) :
    Generated.doubleprime other self P D b = (primeOf self D (primeOf other P b), primeOf other P b) := by
  unfold Generated.doubleprime primeOf
  simp only [iterLoop_congr (fun b i acc hb => (C01_generated_loop_bodies other self b i acc hb).2.2.2.1),
    iterLoop_congr (fun b i acc hb => (C01_generated_loop_bodies other self b i acc hb).2.2.2.2), iterLoop_canonStep]

/-- on a context: `Objects.prime/double/doubleprime` and `Properties.prime/double/doubleprime` as written in
the source are `intentOf`, `doubleObj`, `dpObj`, `extentOf`, `doubleProp`, `dpProp` of the model -/
theorem C01_generated_closures (K : Ctx) (A B : Nat) :
    Generated.prime K.rows K.cols (full K.m) (full K.n) A = K.intentOf A ∧
    Generated.double K.rows K.cols (full K.m) (full K.n) A = K.doubleObj A ∧
    Generated.doubleprime K.rows K.cols (full K.m) (full K.n) A = K.dpObj A ∧
    Generated.prime K.cols K.rows (full K.n) (full K.m) B = K.extentOf B ∧
    Generated.double K.cols K.rows (full K.n) (full K.m) B = K.doubleProp B ∧
    Generated.doubleprime K.cols K.rows (full K.n) (full K.m) B = K.dpProp B := by
  -- the six operations of the model are `primeOf` and its compositions by definition
  exact ⟨C01_generated_prime .., C01_generated_double .., C01_generated_doubleprime ..,
    C01_generated_prime .., C01_generated_double .., C01_generated_doubleprime ..⟩

end FCA
#print axioms FCA.C01_generated_loop_bodies
#print axioms FCA.C01_generated_closures
