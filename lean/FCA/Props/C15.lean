import FCA.Proofs.InvarianceCtx
import FCA.Props.C03
/-
C15 — Lattice structure is invariant under relabelling, duplication and transposition.

Specification level: a concept is a pair of masks `(A, B)` with `isConcept K A B`; concepts are
ordered by inclusion of extents; `Covers`, `IsJoin`, `IsMeet` (FCA/Proofs/Invariance.lean) are the
covering relation, least upper bound and greatest lower bound in that order; `conceptSet K` is the
finite set of all concepts.  `Relabel`, `DupRow`, `DupCol`, `FullCol` (FCA/Proofs/InvarianceCtx.lean)
bundle the explicit hypotheses "K' is K with permuted rows/columns", "... with a copied row", ...
-/
namespace FCA

/-- `isConcept` of the model is the textbook definition over the incidence relation `K.has` -/
theorem C15_isConcept_spec {K : Ctx} (h : K.WF) {A B : Nat} :
    isConcept K A B ↔ Bounded K.n A ∧ Bounded K.m B ∧
      (∀ j, j ∈ᵇ B ↔ j < K.m ∧ ∀ i, i ∈ᵇ A → K.has i j) ∧
      (∀ i, i ∈ᵇ A ↔ i < K.n ∧ ∀ j, j ∈ᵇ B → K.has i j) := isConcept_spec h

/-! ## concrete 2×2 contexts used for the non-vacuity examples

`ex1`: object 0 has property 0, object 1 has properties 0 and 1 (a chain of two concepts).
`ex2`: object 0 has property 0, object 1 has property 1 (the four-element Boolean lattice). -/

def ex1 : Ctx := mkCtx 2 2 #[1, 3]
def ex2 : Ctx := mkCtx 2 2 #[1, 2]

theorem ex1_WF : ex1.WF := mkCtx_WF rfl (by decide)
theorem ex2_WF : ex2.WF := mkCtx_WF rfl (by decide)

theorem ex1_top : isConcept ex1 3 1 := by unfold isConcept; decide +kernel
theorem ex1_bot : isConcept ex1 2 3 := by unfold isConcept; decide +kernel
theorem ex2_left : isConcept ex2 1 1 := by unfold isConcept; decide +kernel
theorem ex2_right : isConcept ex2 2 2 := by unfold isConcept; decide +kernel

/-! ## transposition: exactly the dual lattice -/

/-- The concepts of the transposed table are the concepts of the table with extent and intent swapped. -/
theorem C15_transpose {K : Ctx} (h : K.WF) {A B : Nat} :
    isConcept K.transpose B A ↔ isConcept K A B := isConcept_transpose

example : ex1.WF := ex1_WF
example : isConcept ex1.transpose 1 3 := (C15_transpose ex1_WF).mpr ex1_top

/-- The order is reversed: `(A₁,B₁) ≤ (A₂,B₂)` in `K` (extent inclusion `A₁ ⊆ A₂`) iff
`(B₂,A₂) ≤ (B₁,A₁)` in `Kᵀ` (extent inclusion there: `B₂ ⊆ B₁`). -/
theorem C15_transpose_order {K : Ctx} (h : K.WF) {A₁ B₁ A₂ B₂ : Nat}
    (h1 : isConcept K A₁ B₁) (h2 : isConcept K A₂ B₂) : A₁ ⊆ᵇ A₂ ↔ B₂ ⊆ᵇ B₁ :=
  concept_order_dual h1 h2

example : (2 ⊆ᵇ 3) ↔ (1 ⊆ᵇ 3) := C15_transpose_order ex1_WF ex1_bot ex1_top

/-- Transposition reverses the covering relation (`lower_neighbors` ↔ `upper_neighbors`). -/
theorem C15_transpose_covers {K : Ctx} (h : K.WF) {A₁ B₁ A₂ B₂ : Nat} :
    Covers K.transpose B₂ A₂ B₁ A₁ ↔ Covers K A₁ B₁ A₂ B₂ :=
  -- the first is the second for `K.transpose`, whose transpose is `K` by `rfl` (`transpose_transpose`)
  ⟨fun hc => covers_transpose_imp hc, covers_transpose_imp⟩

/-- Transposition exchanges join and meet. -/
theorem C15_transpose_join_meet {K : Ctx} (h : K.WF) {A₁ B₁ A₂ B₂ A B : Nat} :
    IsJoin K.transpose B₁ A₁ B₂ A₂ B A ↔ IsMeet K A₁ B₁ A₂ B₂ A B :=
  isJoin_transpose_iff

theorem C15_transpose_meet_join {K : Ctx} (h : K.WF) {A₁ B₁ A₂ B₂ A B : Nat} :
    IsMeet K.transpose B₁ A₁ B₂ A₂ B A ↔ IsJoin K A₁ B₁ A₂ B₂ A B :=
  (isJoin_transpose_iff (K := K.transpose)).symm  -- again `K.transpose.transpose` is `K` by `rfl`

/-- Transposition does not change the number of concepts. -/
theorem C15_transpose_card {K : Ctx} (h : K.WF) :
    (conceptSet K.transpose).card = (conceptSet K).card :=
  conceptSet_card_eq Prod.swap Prod.swap (fun _ _ hc => isConcept_transpose.mpr hc)
    (fun _ _ hc => isConcept_transpose.mp hc) (fun _ _ _ => rfl) (fun _ _ _ => rfl)

/-! ## relabelling: permuting rows and columns -/

def swap01 (i : Nat) : Nat := 1 - i

def ex1' : Ctx := mkCtx 2 2 #[3, 2]
theorem ex1'_WF : ex1'.WF := mkCtx_WF rfl (by decide)

theorem ex1_relabel : Relabel ex1 ex1' swap01 swap01 swap01 swap01 :=
  ⟨ex1_WF, ex1'_WF, rfl, rfl, by decide, by decide, by decide⟩

/-- Concepts correspond: if `A'` is the image of `A` under the row permutation and `B'` the image of
`B` under the column permutation, `(A,B)` is a concept of `K` iff `(A',B')` is one of `K'`. -/
theorem C15_perm {K K' : Ctx} {σ σi τ τi : Nat → Nat} (r : Relabel K K' σ σi τ τi)
    {A B A' B' : Nat} (hA : Image σ K.n A A') (hB : Image τ K.m B B') :
    isConcept K A B ↔ isConcept K' A' B' := r.concept_iff hA hB

example : Image swap01 ex1.n 2 1 := by decide
example : Image swap01 ex1.m 3 3 := by decide
example : isConcept ex1' 1 3 :=
  (C15_perm ex1_relabel (A := 2) (B := 3) (by decide) (by decide)).mp ex1_bot

/-- the same with the computed image masks -/
theorem C15_perm_mapMask {K K' : Ctx} {σ σi τ τi : Nat → Nat} (r : Relabel K K' σ σi τ τi)
    {A B : Nat} (h : isConcept K A B) : isConcept K' (mapMask σ K.n A) (mapMask τ K.m B) :=
  (r.concept_iff (image_mapMask r.hσ h.1) (image_mapMask r.hτ h.2.1)).mp h

/-- ... and every concept of `K'` arises that way (from a unique concept of `K`, see `Image.unique`) -/
theorem C15_perm_surj {K K' : Ctx} {σ σi τ τi : Nat → Nat} (r : Relabel K K' σ σi τ τi)
    {A' B' : Nat} (h : isConcept K' A' B') :
    ∃ A B, isConcept K A B ∧ Image σ K.n A A' ∧ Image τ K.m B B' :=
  ⟨_, _, (r.concept_preimage h).2.2, (r.concept_preimage h).1, (r.concept_preimage h).2.1⟩

/-- Relabelling preserves the order of concepts: inclusion of extents, of the images as of the originals. -/
theorem C15_perm_order {σ σi : Nat → Nat} {n A₁ A₁' A₂ A₂' : Nat} (hσ : PermOn σ σi n)
    (h1 : Image σ n A₁ A₁') (h2 : Image σ n A₂ A₂') : A₁ ⊆ᵇ A₂ ↔ A₁' ⊆ᵇ A₂' :=
  Image.sub_iff hσ h1 h2

example : PermOn swap01 swap01 2 := by decide

/-- Relabelling preserves the covering relation (`lower_neighbors` / `upper_neighbors`). -/
theorem C15_perm_covers {K K' : Ctx} {σ σi τ τi : Nat → Nat} (r : Relabel K K' σ σi τ τi)
    {A₁ B₁ A₂ B₂ A₁' B₁' A₂' B₂' : Nat}
    (hA₁ : Image σ K.n A₁ A₁') (hB₁ : Image τ K.m B₁ B₁')
    (hA₂ : Image σ K.n A₂ A₂') (hB₂ : Image τ K.m B₂ B₂') :
    Covers K A₁ B₁ A₂ B₂ ↔ Covers K' A₁' B₁' A₂' B₂' :=
  and_congr (r.concept_iff hA₁ hB₁) <| and_congr (r.concept_iff hA₂ hB₂)
    ⟨r.ordCorr.covers hA₁ hA₂, r.symm.ordCorr.covers (r.image_symm hA₁) (r.image_symm hA₂)⟩

/-- Relabelling preserves joins (`Concept.join`). -/
theorem C15_perm_join {K K' : Ctx} {σ σi τ τi : Nat → Nat} (r : Relabel K K' σ σi τ τi)
    {A₁ B₁ A₂ B₂ A B A₁' B₁' A₂' B₂' A' B' : Nat}
    (hA₁ : Image σ K.n A₁ A₁') (hB₁ : Image τ K.m B₁ B₁')
    (hA₂ : Image σ K.n A₂ A₂') (hB₂ : Image τ K.m B₂ B₂')
    (hA : Image σ K.n A A') (hB : Image τ K.m B B') :
    IsJoin K A₁ B₁ A₂ B₂ A B ↔ IsJoin K' A₁' B₁' A₂' B₂' A' B' :=
  and_congr (r.concept_iff hA₁ hB₁) <| and_congr (r.concept_iff hA₂ hB₂) <| and_congr (r.concept_iff hA hB)
    ⟨r.ordCorr.lub hA₁ hA₂ hA, r.symm.ordCorr.lub (r.image_symm hA₁) (r.image_symm hA₂) (r.image_symm hA)⟩

/-- Relabelling preserves meets (`Concept.meet`). -/
theorem C15_perm_meet {K K' : Ctx} {σ σi τ τi : Nat → Nat} (r : Relabel K K' σ σi τ τi)
    {A₁ B₁ A₂ B₂ A B A₁' B₁' A₂' B₂' A' B' : Nat}
    (hA₁ : Image σ K.n A₁ A₁') (hB₁ : Image τ K.m B₁ B₁')
    (hA₂ : Image σ K.n A₂ A₂') (hB₂ : Image τ K.m B₂ B₂')
    (hA : Image σ K.n A A') (hB : Image τ K.m B B') :
    IsMeet K A₁ B₁ A₂ B₂ A B ↔ IsMeet K' A₁' B₁' A₂' B₂' A' B' :=
  and_congr (r.concept_iff hA₁ hB₁) <| and_congr (r.concept_iff hA₂ hB₂) <| and_congr (r.concept_iff hA hB)
    ⟨r.ordCorr.flip.lub hA₁ hA₂ hA,
      r.symm.ordCorr.flip.lub (r.image_symm hA₁) (r.image_symm hA₂) (r.image_symm hA)⟩

/-- Relabelling preserves the number of concepts (`len(lattice)`). -/
theorem C15_perm_card {K K' : Ctx} {σ σi τ τi : Nat → Nat} (r : Relabel K K' σ σi τ τi) :
    (conceptSet K').card = (conceptSet K).card := by
  have bd : ∀ {A' B'}, isConcept K' A' B' → Bounded K.n A' ∧ Bounded K.m B' := fun h => ⟨r.hn ▸ h.1, r.hm ▸ h.2.1⟩
  apply conceptSet_card_eq (fun p => (mapMask σ K.n p.1, mapMask τ K.m p.2))
    (fun p => (mapMask σi K.n p.1, mapMask τi K.m p.2))
  · exact fun A B h => C15_perm_mapMask r h
  · exact fun A' B' h => (r.concept_preimage h).2.2
  · exact fun A B h => Prod.ext (mapMask_inv r.hσ h.1) (mapMask_inv r.hτ h.2.1)
  · exact fun A' B' h => Prod.ext (mapMask_inv r.hσ.symm (bd h).1) (mapMask_inv r.hτ.symm (bd h).2)

/-- Property relations (`junctors.py`) are preserved: the truth-value pattern code of a pair of
columns, and of a single column, is the same for the relabelled columns of the relabelled context. -/
theorem C15_perm_binaryCode {K K' : Ctx} {σ σi τ τi : Nat → Nat} (r : Relabel K K' σ σi τ τi)
    {j₁ j₂ : Nat} (h1 : j₁ < K.m) (h2 : j₂ < K.m) :
    binaryCode K'.n (K'.cols[τ j₁]!) (K'.cols[τ j₂]!) = binaryCode K.n (K.cols[j₁]!) (K.cols[j₂]!) := by
  rw [r.hn]; exact binaryCode_image r.hσ (r.image_col h1) (r.image_col h2)

theorem C15_perm_unaryCode {K K' : Ctx} {σ σi τ τi : Nat → Nat} (r : Relabel K K' σ σi τ τi)
    {j : Nat} (h : j < K.m) :
    unaryCode K'.n (K'.cols[τ j]!) = unaryCode K.n (K.cols[j]!) := by
  rw [r.hn]; exact unaryCode_image r.hσ (r.image_col h)

/-! ## a copy of an existing row -/

def ex1r : Ctx := mkCtx 3 2 #[1, 3, 3]
theorem ex1r_WF : ex1r.WF := mkCtx_WF rfl (by decide)
theorem ex1_dupRow : DupRow ex1 ex1r 1 := ⟨ex1_WF, ex1r_WF, rfl, rfl, by decide, by decide, by decide⟩

/-- Every concept survives with the same intent; the copy joins the extent iff the original is in it. -/
theorem C15_dup_row_fwd {K K' : Ctx} {i₀ : Nat} (d : DupRow K K' i₀) {A B : Nat}
    (h : isConcept K A B) : isConcept K' (if i₀ ∈ᵇ A then A ||| 2 ^ K.n else A) B :=
  isConcept_transpose.mp (d.transpose.fwd (isConcept_transpose.mpr h))

/-- Every concept of the enlarged context restricts to a concept with the same intent. -/
theorem C15_dup_row_bwd {K K' : Ctx} {i₀ : Nat} (d : DupRow K K' i₀) {A' B : Nat}
    (h : isConcept K' A' B) : isConcept K (A' &&& full K.n) B :=
  isConcept_transpose.mp (d.transpose.addCol.bwd (isConcept_transpose.mpr h))

/-- The family of intents is unchanged. -/
theorem C15_dup_row {K K' : Ctx} {i₀ : Nat} (d : DupRow K K' i₀) {B : Nat} :
    (∃ A, isConcept K A B) ↔ (∃ A', isConcept K' A' B) :=
  ⟨fun ⟨_, h⟩ => ⟨_, C15_dup_row_fwd d h⟩, fun ⟨_, h⟩ => ⟨_, C15_dup_row_bwd d h⟩⟩

/-- `C15_dup_row_fwd` and `C15_dup_row_bwd` are mutually inverse on concepts: restricting the enlarged
extent gives back the extent, ... -/
theorem C15_dup_row_bwd_fwd {K : Ctx} {i₀ A B : Nat} (h : isConcept K A B) :
    (if i₀ ∈ᵇ A then A ||| 2 ^ K.n else A) &&& full K.n = A :=
  and_full_of_mem_iff h.1 fun _ => mem_ite_or_pow

/-- ... and enlarging the restricted extent of a concept of `K'` gives back that extent (the copy is in
an extent of `K'` iff the original is). -/
theorem C15_dup_row_fwd_bwd {K K' : Ctx} {i₀ : Nat} (d : DupRow K K' i₀) {A' B : Nat}
    (h : isConcept K' A' B) :
    (if i₀ ∈ᵇ (A' &&& full K.n) then (A' &&& full K.n) ||| 2 ^ K.n else A' &&& full K.n) = A' := by
  have hT := isConcept_transpose.mpr h
  exact ite_and_full_or_pow (d.hn ▸ h.1)
    ((d.transpose.sub_iff (d.transpose.addCol.bwd hT)).symm.trans (d.transpose.addCol.new_mem hT).symm)

/-- The number of concepts is unchanged (`C15_dup_row_fwd` / `C15_dup_row_bwd` are inverse bijections). -/
theorem C15_dup_row_card {K K' : Ctx} {i₀ : Nat} (d : DupRow K K' i₀) :
    (conceptSet K').card = (conceptSet K).card := by
  rw [← C15_transpose_card d.wf', ← C15_transpose_card d.wf]
  exact d.transpose.addCol.card

-- `(e :)` elaborates `e` first: against the expected type the unifier meets `if ?i₀ ∈ᵇ ?A then … else ?A =?= 6`
-- with the arguments still unknown, which is slow; so for the examples of `dup_col` and `full_col` below
example : isConcept ex1r 6 3 := (C15_dup_row_fwd ex1_dupRow ex1_bot :)
example : (conceptSet ex1r).card = (conceptSet ex1).card := C15_dup_row_card ex1_dupRow

/-! ## a copy of an existing column -/

def ex1c : Ctx := mkCtx 2 3 #[1, 7]
theorem ex1c_WF : ex1c.WF := mkCtx_WF rfl (by decide)
theorem ex1_dupCol : DupCol ex1 ex1c 1 := ⟨ex1_WF, ex1c_WF, rfl, rfl, by decide, by decide, by decide⟩

/-- Every concept survives with the same extent; the copy joins the intent iff the original is in it. -/
theorem C15_dup_col_fwd {K K' : Ctx} {j₀ : Nat} (d : DupCol K K' j₀) {A B : Nat}
    (h : isConcept K A B) : isConcept K' A (if j₀ ∈ᵇ B then B ||| 2 ^ K.m else B) := d.fwd h

theorem C15_dup_col_bwd {K K' : Ctx} {j₀ : Nat} (d : DupCol K K' j₀) {A B' : Nat}
    (h : isConcept K' A B') : isConcept K A (B' &&& full K.m) := d.addCol.bwd h

/-- The family of extents is unchanged. -/
theorem C15_dup_col {K K' : Ctx} {j₀ : Nat} (d : DupCol K K' j₀) {A : Nat} :
    (∃ B, isConcept K A B) ↔ (∃ B', isConcept K' A B') := d.addCol.extents_iff

theorem C15_dup_col_card {K K' : Ctx} {j₀ : Nat} (d : DupCol K K' j₀) :
    (conceptSet K').card = (conceptSet K).card := d.addCol.card

example : isConcept ex1c 2 7 := (C15_dup_col_fwd ex1_dupCol ex1_bot :)
example : isConcept ex1c 3 1 := (C15_dup_col_fwd ex1_dupCol ex1_top :)

/-! ## a column that applies to every object -/

def ex2f : Ctx := mkCtx 2 3 #[5, 6]
theorem ex2f_WF : ex2f.WF := mkCtx_WF rfl (by decide)
theorem ex2_fullCol : FullCol ex2 ex2f := ⟨ex2_WF, ex2f_WF, rfl, rfl, by decide, by decide⟩

/-- Every concept survives with the same extent; the new property joins every intent. -/
theorem C15_full_col_fwd {K K' : Ctx} (d : FullCol K K') {A B : Nat}
    (h : isConcept K A B) : isConcept K' A (B ||| 2 ^ K.m) :=
  d.addCol.fwd (fun j => by rw [mem_or, mem_pow, and_iff_left (bounded_iff_sub_full.mp h.1)]) h

theorem C15_full_col_bwd {K K' : Ctx} (d : FullCol K K') {A B' : Nat}
    (h : isConcept K' A B') : isConcept K A (B' &&& full K.m) := d.addCol.bwd h

/-- The family of extents is unchanged. -/
theorem C15_full_col {K K' : Ctx} (d : FullCol K K') {A : Nat} :
    (∃ B, isConcept K A B) ↔ (∃ B', isConcept K' A B') := d.addCol.extents_iff

theorem C15_full_col_card {K K' : Ctx} (d : FullCol K K') :
    (conceptSet K').card = (conceptSet K).card := d.addCol.card

example : isConcept ex2f 1 5 := (C15_full_col_fwd ex2_fullCol ex2_left :)

/-! More generally (`AddCol`): a new column whose object set is any extent of `K` (an intersection of
existing columns — a *reducible* property) leaves the family of extents and the number of concepts
unchanged; `C15_dup_col` and `C15_full_col` are the special cases `E = {j₀}'` and `E = G`. -/
theorem C15_reducible_col {K K' : Ctx} {E : Nat} (a : AddCol K K' E) {A : Nat} :
    ((∃ B, isConcept K A B) ↔ (∃ B', isConcept K' A B')) ∧
      (conceptSet K').card = (conceptSet K).card := ⟨a.extents_iff, a.card⟩

#print axioms C15_isConcept_spec
#print axioms C15_transpose
#print axioms C15_transpose_order
#print axioms C15_transpose_covers
#print axioms C15_transpose_join_meet
#print axioms C15_transpose_meet_join
#print axioms C15_transpose_card
#print axioms C15_perm
#print axioms C15_perm_mapMask
#print axioms C15_perm_surj
#print axioms C15_perm_order
#print axioms C15_perm_covers
#print axioms C15_perm_join
#print axioms C15_perm_meet
#print axioms C15_perm_card
#print axioms C15_perm_binaryCode
#print axioms C15_perm_unaryCode
#print axioms C15_dup_row_fwd
#print axioms C15_dup_row_bwd
#print axioms C15_dup_row
#print axioms C15_dup_row_bwd_fwd
#print axioms C15_dup_row_fwd_bwd
#print axioms C15_dup_row_card
#print axioms C15_dup_col_fwd
#print axioms C15_dup_col_bwd
#print axioms C15_dup_col
#print axioms C15_dup_col_card
#print axioms C15_full_col_fwd
#print axioms C15_full_col_bwd
#print axioms C15_full_col
#print axioms C15_full_col_card
#print axioms C15_reducible_col

/-! ## the same statements about the lattice objects the library builds (`mkLattice`) -/

/-- the concept set of `K` is what `iter(context.lattice)` lists, and `len(lattice)` is its size -/
theorem C15_lattice_is_conceptSet {K : Ctx} (h : K.WF) :
    (∀ p, p ∈ (mkLattice K).map (fun c => (c.extent, c.intent)) ↔ p ∈ conceptSet K) ∧
    (mkLattice K).length = (conceptSet K).card := by
  have hmem : ∀ p, p ∈ (mkLattice K).map (fun c => (c.extent, c.intent)) ↔ p ∈ conceptSet K := by
    intro p; rw [mem_conceptSet]; exact C03_lattice_iff K h p.1 p.2
  refine ⟨hmem, ?_⟩
  have hnd := C03_lattice_nodup K h
  rw [← List.length_map (f := fun c : LConcept => (c.extent, c.intent)), ← List.toFinset_card_of_nodup hnd]
  refine congrArg Finset.card (Finset.ext fun p => ?_)
  rw [List.mem_toFinset]; exact hmem p

/-- relabelling: the lattice of the permuted context lists exactly the images of the concepts, and has
the same number of concepts -/
theorem C15_lattice_perm {K K' : Ctx} {σ σi τ τi : Nat → Nat} (r : Relabel K K' σ σi τ τi)
    {A B A' B' : Nat} (hA : Image σ K.n A A') (hB : Image τ K.m B B') :
    ((A, B) ∈ (mkLattice K).map (fun c => (c.extent, c.intent)) ↔
      (A', B') ∈ (mkLattice K').map (fun c => (c.extent, c.intent))) ∧
    (mkLattice K').length = (mkLattice K).length := by
  constructor
  · rw [C03_lattice_iff K r.wf, C03_lattice_iff K' r.wf']; exact C15_perm r hA hB
  · rw [(C15_lattice_is_conceptSet r.wf).2, (C15_lattice_is_conceptSet r.wf').2]; exact C15_perm_card r

/-- transposition: the lattice of the transposed context lists exactly the swapped pairs (the dual lattice) -/
theorem C15_lattice_transpose {K : Ctx} (h : K.WF) (A B : Nat) :
    ((B, A) ∈ (mkLattice K.transpose).map (fun c => (c.extent, c.intent)) ↔
      (A, B) ∈ (mkLattice K).map (fun c => (c.extent, c.intent))) ∧
    (mkLattice K.transpose).length = (mkLattice K).length := by
  constructor
  · rw [C03_lattice_iff K h, C03_lattice_iff K.transpose (transpose_WF h)]; exact C15_transpose h
  · rw [(C15_lattice_is_conceptSet h).2, (C15_lattice_is_conceptSet (transpose_WF h)).2]; exact C15_transpose_card h

/-- duplicated row / duplicated column / full column: the number of concepts of the lattice is unchanged -/
theorem C15_lattice_dup_card {K K' : Ctx} :
    (∀ i₀, DupRow K K' i₀ → (mkLattice K').length = (mkLattice K).length) ∧
    (∀ j₀, DupCol K K' j₀ → (mkLattice K').length = (mkLattice K).length) ∧
    (FullCol K K' → (mkLattice K').length = (mkLattice K).length) := by
  refine ⟨fun i₀ d => ?_, fun j₀ d => ?_, fun d => ?_⟩
  · rw [(C15_lattice_is_conceptSet d.wf).2, (C15_lattice_is_conceptSet d.wf').2]; exact C15_dup_row_card d
  · rw [(C15_lattice_is_conceptSet d.wf).2, (C15_lattice_is_conceptSet d.wf').2]; exact C15_dup_col_card d
  · rw [(C15_lattice_is_conceptSet d.wf).2, (C15_lattice_is_conceptSet d.wf').2]; exact C15_full_col_card d

end FCA
