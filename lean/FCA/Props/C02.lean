import FCA.Proofs.LatticeSpec
import FCA.Model.Misc
/-
C02 — Concept lookup returns the least formal concept containing the query.
-/
namespace FCA

/-- `context[objects]` is the pair `(A'', A')` -/
theorem C02_doubleprime_obj (K : Ctx) (A : Nat) :
    K.dpObj A = (K.extentOf (K.intentOf A), K.intentOf A) := rfl

/-- `context[properties]` is the pair `(B', B'')` (as `(intent'', intent')`) -/
theorem C02_doubleprime_prop (K : Ctx) (B : Nat) :
    K.dpProp B = (K.intentOf (K.extentOf B), K.extentOf B) := rfl

/-- always a formal concept (each side is the derivation of the other) -/
theorem C02_is_concept_obj (K : Ctx) (h : K.WF) (A : Nat) (hA : Bounded K.n A) :
    isConcept K (K.dpObj A).1 (K.dpObj A).2 :=
  ⟨bounded_extentOf _, bounded_intentOf A, intent_extent_intent h hA, rfl⟩

theorem C02_is_concept_prop (K : Ctx) (h : K.WF) (B : Nat) (hB : Bounded K.m B) :
    isConcept K (K.dpProp B).2 (K.dpProp B).1 :=
  isConcept_transpose.mp (C02_is_concept_obj K.transpose (transpose_WF h) B hB)

/-- the extent contains the query … -/
theorem C02_extensive_obj (K : Ctx) (h : K.WF) (A : Nat) (hA : Bounded K.n A) : A ⊆ᵇ (K.dpObj A).1 :=
  sub_extent_intent h hA

theorem C02_extensive_prop (K : Ctx) (h : K.WF) (B : Nat) (hB : Bounded K.m B) : B ⊆ᵇ (K.dpProp B).1 :=
  C02_extensive_obj K.transpose (transpose_WF h) B hB

/-- … and is contained in the extent of every other concept containing it -/
theorem C02_least_obj (K : Ctx) (h : K.WF) (A A₁ B₁ : Nat) (hc : isConcept K A₁ B₁) (hs : A ⊆ᵇ A₁) :
    (K.dpObj A).1 ⊆ᵇ A₁ :=
  closed_sub_of_sub (isConcept_iff_closed.mp hc).1 hs

theorem C02_least_prop (K : Ctx) (h : K.WF) (B A₁ B₁ : Nat) (hc : isConcept K A₁ B₁) (hs : B ⊆ᵇ B₁) :
    (K.dpProp B).1 ⊆ᵇ B₁ :=
  C02_least_obj K.transpose (transpose_WF h) B B₁ A₁ (isConcept_transpose.mpr hc) hs

/-- the closure is monotone -/
theorem C02_monotone (K : Ctx) (h : K.WF) (A A' : Nat) (hs : A ⊆ᵇ A') : K.doubleObj A ⊆ᵇ K.doubleObj A' :=
  doubleObj_mono hs

/-- the closure is idempotent -/
theorem C02_idempotent (K : Ctx) (h : K.WF) (A : Nat) (hA : Bounded K.n A) :
    K.doubleObj (K.doubleObj A) = K.doubleObj A := (doubleObj_closed h A).2

/-- the lookup key of `lattice[objects]` and of `lattice(properties)` is a closed extent -/
theorem C02_lookup_key_closed (K : Ctx) (h : K.WF) (A B : Nat) (hA : Bounded K.n A) (hB : Bounded K.m B) :
    closedObj K (K.dpObj A).1 ∧ closedObj K (K.extentOf B) :=
  ⟨doubleObj_closed h A, bounded_extentOf B, extent_intent_extent h hB⟩

/-- `lattice(())`: the empty property set derives to all objects, the extent of the top concept -/
theorem C02_empty_properties_top (K : Ctx) (h : K.WF) : K.extentOf 0 = full K.n := extentOf_zero K

/-- `lattice[objects]`: the lookup is defined and returns the position of the member whose extent and
intent are `(A'', A')` (positions are what `Concept.index` makes observable; the member object at a
position is unique) -/
theorem C02_lookup_objects (K : Ctx) (h : K.WF) (A : Nat) (hA : Bounded K.n A) :
    ∃ k c, lookupObjects K (mkLattice K) A = some k ∧ (mkLattice K)[k]? = some c ∧
      c.extent = (K.dpObj A).1 ∧ c.intent = (K.dpObj A).2 ∧ c.index = k := by
  have S := mkLattice_spec h
  obtain ⟨k, c, hk, hc, he⟩ := S.find_of_closed (doubleObj_closed h A)
  refine ⟨k, c, hk, hc, he, ?_, S.index hc⟩
  rw [S.intent hc, he]
  exact intent_extent_intent h hA

/-- `lattice(properties)` / `lattice[properties]`: likewise for `(B', B'')`, the empty property set included -/
theorem C02_lookup_properties (K : Ctx) (h : K.WF) (B : Nat) (hB : Bounded K.m B) :
    ∃ k c, lookupProperties K (mkLattice K) B = some k ∧ (mkLattice K)[k]? = some c ∧
      c.extent = K.extentOf B ∧ c.intent = (K.dpProp B).1 ∧ c.index = k := by
  have S := mkLattice_spec h
  obtain ⟨k, c, hk, hc, he⟩ := S.find_of_closed ⟨bounded_extentOf B, extent_intent_extent h hB⟩
  exact ⟨k, c, hk, hc, he, by rw [S.intent hc, he]; rfl, S.index hc⟩

/-- `lattice[i]` is the i-th member in iteration order and carries `index = i`; `lattice[()]` is the
last member, whose extent is all objects -/
theorem C02_lookup_index_and_top (K : Ctx) (h : K.WF) :
    (∀ (k : Nat) (c : LConcept), (mkLattice K)[k]? = some c → c.index = k) ∧
    ∃ c, (mkLattice K)[(mkLattice K).length - 1]? = some c ∧ c.extent = full K.n := by
  have S := mkLattice_spec h
  exact ⟨fun k c hc => S.index hc, S.get_last⟩

/-- the closure on property sets is monotone and idempotent too -/
theorem C02_monotone_prop (K : Ctx) (h : K.WF) (B B' : Nat) (hs : B ⊆ᵇ B') : K.doubleProp B ⊆ᵇ K.doubleProp B' :=
  C02_monotone K.transpose (transpose_WF h) B B' hs

theorem C02_idempotent_prop (K : Ctx) (h : K.WF) (B : Nat) (hB : Bounded K.m B) :
    K.doubleProp (K.doubleProp B) = K.doubleProp B :=
  C02_idempotent K.transpose (transpose_WF h) B hB

theorem labelMask_of_forall {names items : List Name} (h : ∀ x ∈ items, x ∈ names) :
    labelMask names items = some (ofMembers (items.map fun x => names.idxOf x)) :=
  if_pos (List.all_eq_true.mpr fun x hx => List.contains_iff_mem.mpr (h x hx))

theorem labelMask_of_exists {names items : List Name} (h : ∃ x ∈ items, x ∉ names) :
    labelMask names items = none :=
  if_neg fun hall => by
    obtain ⟨x, hx, hn⟩ := h
    exact hn (List.contains_iff_mem.mp (List.all_eq_true.mp hall x hx))

/-- `context[items]`: a non-empty collection of object labels takes the object branch and yields `(A'', A')` -/
theorem C02_getitem_objects (K : Ctx) (objs props items : List Name) (hall : ∀ x ∈ items, x ∈ objs) :
    ctxGetitem K objs props items = .ok (K.dpObj (ofMembers (items.map fun x => objs.idxOf x))) := by
  rw [ctxGetitem, labelMask_of_forall hall]

/-- … a non-empty collection of property labels (names of objects and properties are disjoint) takes the
property branch and yields `(B', B'')` as `(extent, intent)` -/
theorem C02_getitem_properties (K : Ctx) (objs props items : List Name) (hdisj : ∀ x, x ∈ objs → x ∉ props)
    (hne : items ≠ []) (hall : ∀ x ∈ items, x ∈ props) :
    ctxGetitem K objs props items =
      .ok (K.extentOf (ofMembers (items.map fun x => props.idxOf x)),
           K.intentOf (K.extentOf (ofMembers (items.map fun x => props.idxOf x)))) := by
  obtain ⟨x, hx⟩ := List.exists_mem_of_ne_nil items hne
  rw [ctxGetitem, labelMask_of_exists ⟨x, hx, fun ho => hdisj x ho (hall x hx)⟩, labelMask_of_forall hall]
  rfl

/-- anything else (an unknown label, or objects and properties mixed) is a `KeyError` -/
theorem C02_getitem_keyerror (K : Ctx) (objs props items : List Name)
    (h1 : ∃ x ∈ items, x ∉ objs) (h2 : ∃ x ∈ items, x ∉ props) :
    ctxGetitem K objs props items = .error .keyError := by
  rw [ctxGetitem, labelMask_of_exists h1, labelMask_of_exists h2]

/-- `lattice[()]` is the last member (the top), whereas `context[()]` would be the bottom: the empty key
never reaches the dispatch -/
theorem C02_lattice_getitem_empty (K : Ctx) (h : K.WF) (objs props : List Name) :
    latticeGetitem K (mkLattice K) objs props [] = .ok ((mkLattice K).length - 1) := by
  have S := mkLattice_spec h
  have : (mkLattice K).isEmpty = false := by
    cases hL : mkLattice K with
    | nil => exact absurd hL S.ne_nil
    | cons _ _ => rfl
  simp [latticeGetitem, this]

def C02_exK : Ctx := mkCtx 3 3 #[0b011, 0b001, 0b110]
example : C02_exK.WF := mkCtx_WF rfl (by intro i hi; interval_cases i <;> decide)
example : isConcept C02_exK (C02_exK.dpObj 0b010).1 (C02_exK.dpObj 0b010).2 :=
  C02_is_concept_obj C02_exK (mkCtx_WF rfl (by intro i hi; interval_cases i <;> decide)) _ (by rw [bounded_iff_lt]; decide)

end FCA
#print axioms FCA.C02_is_concept_obj
#print axioms FCA.C02_least_obj
#print axioms FCA.C02_least_prop
