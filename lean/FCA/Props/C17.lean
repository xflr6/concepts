import FCA.Props.C01
import FCA.Props.C13
import FCA.Proofs.Assemble
import FCA.Props.C09
/-
C17 — All results are deterministic across processes and hash seeds.

String-hash randomisation is a runtime behaviour; its only effect on this code is the *enumeration
order of sets*. The universally quantified part of the property is therefore: at every site where the
code iterates a set, the result does not depend on the enumeration. The model takes that enumeration
as the order (and multiplicity) of a list argument, and the theorems below state independence of it.
Sites that use a set for membership tests only are listed in harness/hash_sites.json (static inventory).
The runtime part (several `PYTHONHASHSEED` values) is explored by the check, not proved.
-/
namespace FCA

/-- site `MemberBits.frommembers` (`sum(map(_map.__getitem__, set(members)))`): any enumeration of the
same set of members, with or without repeats, gives the same bit set -/
theorem C17_frommembers_order (l l' : List Nat) (h : ∀ x, x ∈ l ↔ x ∈ l') : ofMembers l = ofMembers l' :=
  C01_ofMembers_congr l l' h

/-- site `tools.maximal` (`set(iterable)` … `permutations`): which elements are kept does not depend on
the enumeration order or on repeats of the input; the kept elements then only seed a heap
(`C17_traversal_seed_order` below: the traversal output does not depend on the seed order either) -/
theorem C17_maximal_members (cmp : Nat → Nat → Bool) (l l' : List Nat) (h : ∀ x, x ∈ l ↔ x ∈ l') :
    ∀ x, x ∈ maximalBy cmp l ↔ x ∈ maximalBy cmp l' := fun x => by
  simp only [C09.mem_maximalBy, h]

/-- … and the traversal seeded with them yields the same sequence for every enumeration (and any repeats)
of the same set of concepts -/
theorem C17_traversal_seed_order (K : Ctx) (h : K.WF) (cs cs' : List Nat)
    (hv : ∀ c ∈ cs, c < (mkLattice K).length) (hm : ∀ x, x ∈ cs ↔ x ∈ cs') :
    upsetUnion (mkLattice K) cs = upsetUnion (mkLattice K) cs' ∧
    downsetUnion (mkLattice K) cs = downsetUnion (mkLattice K) cs' :=
  C09_union_congr K h cs cs' hv hm

/-- site `Lattice._annotate` (`for c in touched: c.objects = tuple(c.objects)`): in the model the labels
of a concept are a function of the context and of its extent alone — no enumeration of touched
concepts enters -/
theorem C17_annotate_touched_order (K : Ctx) (recs : List Rec) (k : Nat) (r : Rec) :
    (mkConcept K recs k r).objects = (List.range K.n).filter (fun o => K.extentOf (K.intentOf (2 ^ o)) == r.extent) ∧
    (mkConcept K recs k r).properties = (List.range K.m).filter (fun p => K.extentOf (2 ^ p) == r.extent) :=
  ⟨rfl, rfl⟩

/-- sites `set_object` / `set_property` / `add_*` / `union_update` (`Unique |= names`): new names are
appended in the order given — the order of the *argument list*, no set involved (this is what the
repaired `set_object` / `set_property` do; before the repair the argument passed through a `set`) -/
theorem C17_set_object_order (d : Defn) (o : Name) (ps : List Name) (d' : Defn) (r : List Name)
    (h : d.step (.setObject o ps) = .ok (d', r)) :
    d'.props = d.props ++ uniq (ps.filter (fun x => !d.props.contains x)) :=
  (C13_append_order_setObject h).2.1

theorem C17_set_property_order (d : Defn) (p : Name) (os : List Name) (d' : Defn) (r : List Name)
    (h : d.step (.setProperty p os) = .ok (d', r)) :
    d'.objs = d.objs ++ uniq (os.filter (fun x => !d.objs.contains x)) :=
  (C13_append_order_setProperty h).1

/-- site `conflicting_pairs` (the pairs listed in the `ValueError` message of `union` /
`intersection` / `*_update`): `left._objects & right._objects` iterates the RIGHT operand
(`collections.abc.Set.__and__`), so the list is the table order of the right operand (objects, then
properties), filtered by "name known on the left and the two cells differ"; the symmetric-difference
*set* is only used for membership.  An equation, not just a sublist. -/
theorem C17_conflicts_order (l r : Defn) :
    l.conflictList r = (r.objs.flatMap fun o => r.props.map fun p => (o, p)).filter fun q =>
      l.objs.contains q.1 && (l.props.contains q.2 && (l.pairs.contains q != r.pairs.contains q)) := by
  rw [Defn.conflictList, conflicts, flatMap_filter, List.filter_flatMap]
  refine List.flatMap_congr fun o _ => ?_
  -- both rows as one `filterMap` over the right operand's properties
  rw [List.filter_map, map_filter_eq_filterMap, List.filterMap_filter]
  by_cases ho : l.objs.contains o = true
  · rw [if_pos ho]
    refine List.filterMap_congr fun p _ => ?_
    by_cases hp : l.props.contains p = true
    · simp only [Function.comp, ho, hp, if_true, Bool.true_and]
    · simp only [Function.comp, hp, if_false, Bool.false_and, Bool.and_false, Bool.false_eq_true]
  · simp only [Function.comp, ho, if_false, Bool.false_and, Bool.false_eq_true, List.filterMap_none]

/-- in particular it is a sublist of the right operand's product order -/
theorem C17_conflicts_sublist (l r : Defn) :
    (conflicts l r).Sublist (r.objs.flatMap fun o => r.props.map fun p => (o, p)) := by
  rw [← Defn.conflictList, C17_conflicts_order]; exact List.filter_sublist

/-- the replay of the review: `a.union(b)` lists the conflicts in `b`'s order, `b.union(a)` in `a`'s -/
example :
    let a : Defn := ⟨["o1", "o2"], ["p1", "p2"], [("o1", "p1"), ("o2", "p2")]⟩
    let b : Defn := ⟨["o2", "o1"], ["p2", "p1"], [("o2", "p1"), ("o1", "p2"), ("o1", "p1")]⟩
    a.conflictList b = [("o2", "p2"), ("o2", "p1"), ("o1", "p2")] ∧
    b.conflictList a = [("o1", "p2"), ("o2", "p1"), ("o2", "p2")] := by decide +kernel

/-- the message is raised exactly when the list is non-empty and conflicts are not ignored -/
theorem C17_conflicts_raised (d e : Defn) (ig : Bool) :
    (∃ err, d.step (.unionUpdate e ig) = .error err) ↔ ig = false ∧ d.conflictList e ≠ [] :=
  (C13_reject_iff d _).trans (and_congr_right fun _ => conflicts_nonempty_iff.symm.trans List.isEmpty_eq_false_iff)

/-- site `Definition._pairs` (a Python `set` of pairs; several methods iterate it): the model keeps it
as a list, and nothing observable depends on the enumeration — the table, cell reads, equality, the
conflict list and the result of every mutator call depend only on membership (`C13_pairs_as_set`;
whole histories: `C13_pairs_as_set_history`, deriving methods: `C13_pairs_as_set_derived`) -/
theorem C17_pairs_enumeration (d d' : Defn) (ho : d.objs = d'.objs) (hp : d.props = d'.props)
    (hm : ∀ x, x ∈ d.pairs ↔ x ∈ d'.pairs) (ops ops' : List Op)
    (hops : List.Forall₂ Op.SameSet ops ops') :
    d.bools = d'.bools ∧ (∀ e, d.conflictList e = d'.conflictList e) ∧
    (d.runHistory ops).objs = (d'.runHistory ops').objs ∧
    (d.runHistory ops).props = (d'.runHistory ops').props ∧
    (d.runHistory ops).bools = (d'.runHistory ops').bools ∧
    (d.runTrace ops).2 = (d'.runTrace ops').2 := by
  obtain ⟨h1, _, _, _, h5, _⟩ := C13_pairs_as_set d d' ho hp hm
  obtain ⟨g1, g2, _, g4, g5⟩ := C13_pairs_as_set_history d d' ops ops' ho hp hm hops
  exact ⟨h1, fun e => (h5 e).1, g1, g2, g4, g5⟩

example : exD.objs = exD'.objs ∧ exD.props = exD'.props ∧ (∀ x, x ∈ exD.pairs ↔ x ∈ exD'.pairs) ∧
    List.Forall₂ Op.SameSet [Op.unionUpdate exD false] [Op.unionUpdate exD' false] :=
  ⟨rfl, rfl, exD_sameSet.2.2, .cons (.union false exD_sameSet) .nil⟩

end FCA

open FCA in
#print axioms C17_pairs_enumeration
open FCA in
#print axioms C17_frommembers_order
open FCA in
#print axioms C17_maximal_members
open FCA in
#print axioms C17_traversal_seed_order
open FCA in
#print axioms C17_set_object_order
open FCA in
#print axioms C17_conflicts_order
open FCA in
#print axioms C17_conflicts_sublist
open FCA in
#print axioms C17_conflicts_raised
