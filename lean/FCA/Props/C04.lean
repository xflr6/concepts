import FCA.Proofs.CboInst
import FCA.Props.C03
import FCA.Props.C04Stack
/-
Property C04 — all concept generators agree on the set of concepts.

`fcbo K` (Fast Close-by-One by intents) and `fcboDual K` (by extents) each emit every formal
concept of `K` exactly once and nothing else; hence they are permutations of each other.
The emission order is deliberately not part of the property.
-/
namespace FCA
open Cbo

/-- Generic FCbO: for a side satisfying `SideOK` (closure `cl = prime ∘ der`, with
`der B ∩ col j = der (B ∪ {j})`), started at a node whose `own` is closed, whose `other` is its
derivation and whose `sets` satisfy the invariant `sets[j] ⊆ cl (own ∪ {j})`, with enough fuel,
`fcboNode` emits – without duplicates, even after projecting to `own` – exactly the nodes
`⟨D, der D⟩` with `D` closed, `own ⊆ D` and `D ∩ [0, idx) ⊆ own`. The `sets` pruning of FCbO
therefore never loses (or adds) anything with respect to plain Close-by-One. -/
theorem C04_fcboNode_spec {S : Side} {der : Nat → Nat} (ok : SideOK S der)
    (fuel : Nat) (nd : FNode) (idx : Nat) (sets : Array Nat)
    (hfuel : S.width - idx ≤ fuel) (hclosed : S.prime (der nd.own) = nd.own)
    (hother : nd.other = der nd.own)
    (hsets : ∀ j, j < S.width → sets[j]! ⊆ᵇ S.prime (der (nd.own ||| 2 ^ j))) :
    ((fcboNode S fuel nd idx sets).map (·.own)).Nodup ∧
    ∀ x, x ∈ fcboNode S fuel nd idx sets ↔
      (x.other = der x.own ∧ S.prime (der x.own) = x.own ∧ nd.own ⊆ᵇ x.own ∧
        ∀ i, i < idx → i ∈ᵇ x.own → i ∈ᵇ nd.own) := by
  obtain ⟨h1, h2, h3⟩ := fcboNode_spec ok fuel nd idx sets hfuel hclosed hother hsets
  exact ⟨h1, mem_iff_own h2 h3⟩

/-- the inner loop of FCbO returns exactly the canonical children of plain Close-by-One
(`Cbo.child`, which has no `sets` test), in loop order -/
theorem C04_fcboInner_children {S : Side} {der : Nat → Nat} (ok : SideOK S der) (nd : FNode)
    (hother : nd.other = der nd.own) (js : List Nat) (sets : Array Nat)
    (hjs : ∀ j ∈ js, j < S.width)
    (hsets : ∀ j, j < S.width → sets[j]! ⊆ᵇ S.prime (der (nd.own ||| 2 ^ j))) :
    (fcboInner S nd js sets []).1 = js.filterMap (child S nd) := by
  have := (fcboInner_spec ok nd hother js sets [] hjs hsets).1
  simpa using this

/-- Fast Close-by-One is plain Close-by-One (`Cbo.cboNode`: no `sets` list, no empty-`other` cut):
under the `sets` invariant both produce literally the same list, for every fuel. -/
theorem C04_fcboNode_eq_cboNode {S : Side} {der : Nat → Nat} (ok : SideOK S der)
    (fuel : Nat) (nd : FNode) (idx : Nat) (sets : Array Nat)
    (hclosed : S.prime (der nd.own) = nd.own) (hother : nd.other = der nd.own)
    (hsets : ∀ j, j < S.width → sets[j]! ⊆ᵇ S.prime (der (nd.own ||| 2 ^ j))) :
    fcboNode S fuel nd idx sets = cboNode S fuel nd idx :=
  fcboNode_eq_cboNode ok fuel nd idx sets hclosed hother hsets

/-- both sides of a well-formed context satisfy the abstract requirements (non-vacuity of `SideOK`) -/
example (K : Ctx) (h : K.WF) : SideOK (sideP K) K.extentOf ∧ SideOK (sideO K) K.intentOf :=
  ⟨sideP_ok h, sideO_ok h⟩

theorem C04_fcboDual_iff {K : Ctx} (h : K.WF) (p : Nat × Nat) :
    p ∈ fcboDual K ↔ isConcept K p.1 p.2 := by
  obtain ⟨_, h2, h3⟩ := fcboNode_root (sideO_ok h)
  rw [fcboDual_eq, List.mem_map, isConcept_iff_closed]
  constructor
  · rintro ⟨x, hx, rfl⟩
    obtain ⟨ho, hc⟩ := (mem_iff_own h2 h3 x).mp hx
    exact ⟨⟨hc ▸ bounded_extentOf _, hc⟩, ho⟩
  · rintro ⟨hc, hi⟩
    exact ⟨⟨p.1, p.2⟩, (mem_iff_own h2 h3 _).mpr ⟨hi, hc.2⟩, rfl⟩

theorem C04_fcboDual_sound {K : Ctx} (h : K.WF) (p : Nat × Nat) (hp : p ∈ fcboDual K) :
    isConcept K p.1 p.2 := (C04_fcboDual_iff h p).mp hp

theorem C04_fcboDual_complete {K : Ctx} (h : K.WF) (A B : Nat) (hc : isConcept K A B) :
    (A, B) ∈ fcboDual K := (C04_fcboDual_iff h (A, B)).mpr hc

theorem C04_fcboDual_nodup {K : Ctx} (h : K.WF) : (fcboDual K).Nodup := by
  rw [fcboDual_eq]
  apply List.Nodup.of_map Prod.fst
  rw [List.map_map]
  exact (fcboNode_root (sideO_ok h)).1

/-- membership in `fcbo K` is being a formal concept -/
theorem C04_fcbo_iff {K : Ctx} (h : K.WF) (p : Nat × Nat) : p ∈ fcbo K ↔ isConcept K p.1 p.2 := by
  rw [fcbo_eq_swap h, List.mem_map]
  constructor
  · rintro ⟨q, hq, rfl⟩
    exact isConcept_transpose.mp ((C04_fcboDual_iff (transpose_WF h) q).mp hq)
  · exact fun hp => ⟨p.swap, (C04_fcboDual_iff (transpose_WF h) _).mpr (isConcept_transpose.mpr hp), Prod.swap_swap p⟩

theorem C04_fcbo_sound {K : Ctx} (h : K.WF) (p : Nat × Nat) (hp : p ∈ fcbo K) :
    isConcept K p.1 p.2 := (C04_fcbo_iff h p).mp hp

theorem C04_fcbo_complete {K : Ctx} (h : K.WF) (A B : Nat) (hc : isConcept K A B) :
    (A, B) ∈ fcbo K := (C04_fcbo_iff h (A, B)).mpr hc

theorem C04_fcbo_nodup {K : Ctx} (h : K.WF) : (fcbo K).Nodup := by
  rw [fcbo_eq_swap h]
  exact (C04_fcboDual_nodup (transpose_WF h)).map Prod.swap_injective

/-- the two generators emit the same concepts, each exactly once (order may differ) -/
theorem C04_agree {K : Ctx} (h : K.WF) : (fcbo K).Perm (fcboDual K) :=
  (List.perm_ext_iff_of_nodup (C04_fcbo_nodup h) (C04_fcboDual_nodup h)).mpr fun p => by
    rw [C04_fcbo_iff h, C04_fcboDual_iff h]

/-- same number of concepts -/
theorem C04_agree_length {K : Ctx} (h : K.WF) : (fcbo K).length = (fcboDual K).length :=
  (C04_agree h).length_eq

/-- the list / iterator wrappers yield the very pairs of `fast_generate_from`, in the same order -/
theorem C04_wrappers (K : Ctx) : iterconcepts K = fcbo K ∧ getConcepts K = fcbo K := by
  constructor <;> simp [iterconcepts, getConcepts]

/-- all generators agree with `context.lattice` as sets of (extent, intent) pairs, each pair once -/
theorem C04_agree_lattice {K : Ctx} (h : K.WF) :
    (fcbo K).Perm ((mkLattice K).map fun c => (c.extent, c.intent)) ∧
    (fcboDual K).Perm ((mkLattice K).map fun c => (c.extent, c.intent)) ∧
    (getConcepts K).Perm ((mkLattice K).map fun c => (c.extent, c.intent)) ∧
    (iterconcepts K).Perm ((mkLattice K).map fun c => (c.extent, c.intent)) := by
  have h1 : (fcbo K).Perm ((mkLattice K).map fun c => (c.extent, c.intent)) :=
    (List.perm_ext_iff_of_nodup (C04_fcbo_nodup h) (C03_lattice_nodup K h)).mpr fun p => by
      rw [C04_fcbo_iff h, C03_lattice_iff K h]
  exact ⟨h1, (C04_agree h).symm.trans h1, (C04_wrappers K).2 ▸ h1, (C04_wrappers K).1 ▸ h1⟩

/-- the doctest context of `fcbo.py`: `A|X|X|X| | | |`, `B|X| |X|X|X|X|`, `C|X|X| | |X| |`, `D| |X|X| | | |` -/
def C04_K : Ctx := mkCtx 4 6 #[7, 61, 19, 6]

example : C04_K.WF := mkCtx_WF rfl (by decide)
/-- `({A,B}, {0,2})` is a concept: the hypothesis of the completeness theorems is satisfiable -/
example : isConcept C04_K 3 5 :=
  ⟨bounded_iff_lt.mpr (by decide), bounded_iff_lt.mpr (by decide), by decide +kernel, by decide +kernel⟩
/-- the same context as `C04S_K`, whose two lists `Props/C04Stack.lean` evaluates -/
theorem C04_K_eq : C04_K = C04S_K := rfl

/-- the hypothesis of the soundness theorems is satisfiable; emission orders as in the doctests -/
example : (3, 5) ∈ fcbo C04_K ∧ (3, 5) ∈ fcboDual C04_K := by rw [C04_K_eq, C04S_fcbo, C04S_fcboDual]; decide
example : fcbo C04_K = [(15, 0), (7, 1), (5, 3), (1, 7), (0, 63), (4, 19), (3, 5), (2, 61), (6, 17),
    (13, 2), (9, 6), (11, 4)] := C04S_fcbo
example : fcboDual C04_K = [(0, 63), (1, 7), (3, 5), (7, 1), (15, 0), (11, 4), (5, 3), (13, 2),
    (9, 6), (2, 61), (6, 17), (4, 19)] := C04S_fcboDual
/-- the two orders really differ, so `Perm` is the right notion of agreement -/
example : fcbo C04_K ≠ fcboDual C04_K := by rw [C04_K_eq, C04S_fcbo, C04S_fcboDual]; decide

end FCA

#print axioms FCA.C04_fcboNode_spec
#print axioms FCA.C04_fcboInner_children
#print axioms FCA.C04_fcboNode_eq_cboNode
#print axioms FCA.C04_fcbo_iff
#print axioms FCA.C04_fcbo_sound
#print axioms FCA.C04_fcbo_complete
#print axioms FCA.C04_fcbo_nodup
#print axioms FCA.C04_fcboDual_iff
#print axioms FCA.C04_fcboDual_sound
#print axioms FCA.C04_fcboDual_complete
#print axioms FCA.C04_fcboDual_nodup
#print axioms FCA.C04_agree
#print axioms FCA.C04_agree_length
