import FCA.Proofs.Validate
import FCA.Model.Render
/-
Property C19 — ill-formed input raises `ValueError`; accepted input is represented faithfully.
(`Data.__init__` / `Data.fromdict` of `concepts/contexts.py`, model: `ctorAccepts`, `ctxOfTriple`,
`fromdictCheck` in `FCA/Model/Misc.lean`.)
-/
namespace FCA

/-- the duplicate test is exact -/
theorem C19_hasDup_iff (l : List Name) : hasDup l = false ↔ l.Nodup := hasDup_eq_false_iff l

/-- the guard chain of the constructor accepts exactly: both name lists non-empty, duplicate-free,
disjoint; one row (length) per object; every row as long as the property list -/
theorem C19_ctor_iff (os ps : List Name) (lens : List Nat) :
    ctorAccepts os ps lens = true ↔
      os ≠ [] ∧ os.Nodup ∧ ps ≠ [] ∧ ps.Nodup ∧ (∀ x, x ∈ os → x ∉ ps) ∧
      lens.length = os.length ∧ ∀ l ∈ lens, l = ps.length :=
  ctorAccepts_iff os ps lens

example : ctorAccepts ["a", "b"] ["x", "y", "z"] [3, 3] = true := by decide +kernel
example : ctorAccepts [] ["x"] [] = false := by decide                        -- no objects
example : ctorAccepts ["a"] [] [0] = false := by decide                       -- no properties
example : ctorAccepts ["a", "a"] ["x"] [1, 1] = false := by decide            -- duplicate object
example : ctorAccepts ["a", "b"] ["x", "x"] [2, 2] = false := by decide       -- duplicate property
example : ctorAccepts ["a", "b"] ["x", "a"] [2, 2] = false := by decide       -- overlap
example : ctorAccepts ["a", "b"] ["x", "y"] [2] = false := by decide +kernel          -- row dropped
example : ctorAccepts ["a", "b"] ["x", "y"] [2, 2, 2] = false := by decide +kernel    -- row added
example : ctorAccepts ["a", "b"] ["x", "y"] [2, 3] = false := by decide +kernel       -- row extended
example : ctorAccepts ["a", "b"] ["x", "y"] [1, 2] = false := by decide +kernel       -- cell dropped

/-- `Context(...)` succeeds iff the triple is well-formed, and then yields `mkCtx` of the row masks;
otherwise it raises `ValueError` — and never anything else -/
theorem C19_ctxOfTriple_iff (os ps : List Name) (bools : List (List Bool)) :
    (∀ K, ctxOfTriple os ps bools = .ok K ↔
      TripleOk os ps bools ∧ K = mkCtx os.length ps.length (bools.map rowMask).toArray) ∧
    (ctxOfTriple os ps bools = .error .valueError ↔ ¬ TripleOk os ps bools) ∧
    (∀ e, ctxOfTriple os ps bools = .error e → e = .valueError) := by
  have hok : ∀ K, ctxOfTriple os ps bools = .ok K ↔
      TripleOk os ps bools ∧ K = mkCtx os.length ps.length (bools.map rowMask).toArray :=
    fun K => ctxOfTriple_eq_ok_iff.trans (and_congr_left fun _ => tripleOk_iff)
  refine ⟨hok, ?_, ?_⟩
  · exact ite_ok_eq_error_iff.trans ((and_iff_left rfl).trans (not_congr tripleOk_iff))
  · exact fun e he => (ite_ok_eq_error_iff.mp he).2

/-- success iff well-formed (existential form) -/
theorem C19_ctxOfTriple_ok_iff (os ps : List Name) (bools : List (List Bool)) :
    (∃ K, ctxOfTriple os ps bools = .ok K) ↔ TripleOk os ps bools :=
  ⟨fun ⟨K, hK⟩ => (((C19_ctxOfTriple_iff os ps bools).1 K).mp hK).1,
    fun h => ⟨_, ((C19_ctxOfTriple_iff os ps bools).1 _).mpr ⟨h, rfl⟩⟩⟩

example : TripleOk ["a", "b"] ["x", "y", "z"] [[true, false, true], [false, false, true]] :=
  tripleOk_iff.mp (by decide +kernel)

/-- bit `j` of a row mask is the truthiness of cell `j` -/
theorem C19_rowMask_spec (row : List Bool) (j : Nat) :
    j ∈ᵇ rowMask row ↔ j < row.length ∧ row[j]! = true := mem_rowMask

/-- an accepted triple is reproduced exactly: sizes, rows (`bools()` by objects) and columns -/
theorem C19_faithful {os ps : List Name} {bools : List (List Bool)} {K : Ctx}
    (h : ctxOfTriple os ps bools = .ok K) :
    K.n = os.length ∧ K.m = ps.length ∧ K.rows.size = K.n ∧ K.cols.size = K.m ∧
    (∀ i j, i < K.n → j < K.m → (j ∈ᵇ K.rows[i]! ↔ (bools[i]!)[j]! = true)) ∧
    (∀ i j, i < K.n → j < K.m → (i ∈ᵇ K.cols[j]! ↔ (bools[i]!)[j]! = true)) := by
  obtain ⟨ht, rfl⟩ := ((C19_ctxOfTriple_iff os ps bools).1 K).mp h
  obtain ⟨_, _, _, _, _, hlen, hrow⟩ := ht
  have hW := mkCtx_rowMask_WF hlen hrow
  have hcell : ∀ i j, i < os.length → j < ps.length →
      (j ∈ᵇ ((bools.map rowMask).toArray)[i]! ↔ (bools[i]!)[j]! = true) := fun i j hi hj => by
    rw [getElem!_map_toArray rowMask_nil, mem_rowMask, hrow _ (getElem!_mem (hlen ▸ hi)), and_iff_right hj]
  exact ⟨rfl, rfl, hW.1, size_colsOf .., hcell, fun i j hi hj => (mem_cols hW).trans (hcell i j hi hj)⟩

/-- an accepted triple gives a well-formed index-level context -/
theorem C19_establishes_WF {os ps : List Name} {bools : List (List Bool)} {K : Ctx}
    (h : ctxOfTriple os ps bools = .ok K) : K.WF := by
  obtain ⟨ht, rfl⟩ := ((C19_ctxOfTriple_iff os ps bools).1 K).mp h
  exact mkCtx_rowMask_WF ht.2.2.2.2.2.1 ht.2.2.2.2.2.2

example : (ctxOfTriple ["a", "b"] ["x", "y", "z"] [[true, false, true], [false, false, true]]).toOption.map
    (fun K => (K.n, K.m, K.rows, K.cols)) = some (2, 3, #[5, 4], #[1, 0, 3]) := by decide +kernel

/-- `fromdict` never raises anything but `ValueError` -/
theorem C19_fromdict_error (d : SDict) (req : Bool) (e : Err) (h : fromdictCheck d req = .error e) :
    e = .valueError := by
  rcases fromdictCheck_cases d req with h' | ⟨_, _, _, _, _, _, _, h'⟩ <;> rw [h'] at h
  · injection h with h; exact h.symm
  · cases h

/-- acceptance of a serialized dict, in terms of what is stored: all three keys present, every name a
string, as many rows as objects, a lattice entry when one is required and never an empty one, every
row duplicate-free with indexes inside `[0, #properties)`, and the constructor conditions on the names;
the result is then the string names and the rows as Booleans — otherwise `ValueError` -/
theorem C19_fromdict_accepts_iff (d : SDict) (req : Bool) :
    ((∃ res, fromdictCheck d req = .ok res) ↔
      ∃ objects properties context, d.objects = some objects ∧ d.properties = some properties ∧
        d.context = some context ∧
        (∀ v ∈ objects, v.isStr = true) ∧ (∀ v ∈ properties, v.isStr = true) ∧
        context.length = objects.length ∧ (req = true → d.lattice ≠ .absent) ∧ d.lattice ≠ .empty ∧
        (∀ r ∈ context, r.Nodup ∧ ∀ i ∈ r, 0 ≤ i ∧ i < (properties.length : Int)) ∧
        strNames objects ≠ [] ∧ (strNames objects).Nodup ∧ strNames properties ≠ [] ∧
        (strNames properties).Nodup ∧ (∀ x, x ∈ strNames objects → x ∉ strNames properties)) ∧
    ((¬ ∃ res, fromdictCheck d req = .ok res) ↔ fromdictCheck d req = .error .valueError) := by
  constructor
  · exact ⟨fun ⟨_, h⟩ => let ⟨o, p, c, ho, hp, hc, hok, _⟩ := fromdictCheck_eq_ok_iff.mp h; ⟨o, p, c, ho, hp, hc, hok⟩,
      fun ⟨o, p, c, ho, hp, hc, hok⟩ => ⟨_, fromdictCheck_eq_ok_iff.mpr ⟨o, p, c, ho, hp, hc, hok, rfl⟩⟩⟩
  · rw [ok_iff_not_error, not_not]
    exact ⟨fun ⟨e, he⟩ => C19_fromdict_error d req e he ▸ he, fun h => ⟨_, h⟩⟩

/-- the same, as an equation for the result `(objects, properties, bools)` -/
theorem C19_fromdict_iff (d : SDict) (req : Bool) (os ps : List Name) (bools : List (List Bool)) :
    fromdictCheck d req = .ok (os, ps, bools) ↔
      ∃ context, d.objects = some (os.map SName.str) ∧ d.properties = some (ps.map SName.str) ∧
        d.context = some context ∧ context.length = os.length ∧
        (req = true → d.lattice ≠ .absent) ∧ d.lattice ≠ .empty ∧
        (∀ r ∈ context, r.Nodup ∧ ∀ i ∈ r, 0 ≤ i ∧ i < (ps.length : Int)) ∧
        os ≠ [] ∧ os.Nodup ∧ ps ≠ [] ∧ ps.Nodup ∧ (∀ x, x ∈ os → x ∉ ps) ∧
        bools = context.map (fun r => (List.range ps.length).map fun j => r.contains (j : Int)) := by
  rw [fromdictCheck_eq_ok_iff]
  constructor
  · rintro ⟨objects, properties, context, ho, hp, hc, ⟨h1, h2, h3, h4, h5, h6, hn⟩, h⟩
    obtain ⟨rfl, rfl, rfl⟩ := Prod.mk.inj h |>.imp_right Prod.mk.inj
    rw [← strNames_length h1] at h3
    rw [← strNames_length h2] at h6 ⊢
    exact ⟨context, by rw [ho, map_str_strNames h1], by rw [hp, map_str_strNames h2], hc, h3, h4, h5, h6,
      hn.1, hn.2.1, hn.2.2.1, hn.2.2.2.1, hn.2.2.2.2, rfl⟩
  · rintro ⟨context, ho, hp, hc, h3, h4, h5, h6, a, b, c, e, f, rfl⟩
    refine ⟨_, _, context, ho, hp, hc, ?_, ?_⟩
    · rw [FromdictOk, strNames_map_str, strNames_map_str, List.length_map, List.length_map]
      exact ⟨isStr_map_str os, isStr_map_str ps, h3, h4, h5, h6, a, b, c, e, f⟩
    · rw [strNames_map_str, strNames_map_str, List.length_map]; rfl

/-- what `fromdict` accepts is accepted by the constructor, with one row per object, one cell per
property and cell `(i, j)` true exactly when index `j` is stored in row `i` -/
theorem C19_fromdict_faithful {d : SDict} {req : Bool} {os ps : List Name} {bools : List (List Bool)}
    (h : fromdictCheck d req = .ok (os, ps, bools)) :
    ∃ context, d.context = some context ∧ TripleOk os ps bools ∧
      ∀ i j, i < os.length → j < ps.length → ((bools[i]!)[j]! = true ↔ (j : Int) ∈ context[i]!) := by
  obtain ⟨context, _, _, hc, h3, _, _, _, a, b, c, e, f, rfl⟩ := (C19_fromdict_iff d req os ps bools).mp h
  refine ⟨context, hc, ⟨a, b, c, e, f, length_boolsOf.trans h3, fun _ => length_of_mem_boolsOf⟩, fun i j hi hj => ?_⟩
  simp [h3 ▸ hi, hj]

example : (fromdictCheck ⟨some [.str "a", .str "b"], some [.str "x", .str "y"], some [[0], [1, 0]], .none⟩ false).toOption
    = some (["a", "b"], ["x", "y"], [[true, false], [true, true]]) := by decide +kernel

/-- single corruptions of that dict are all rejected (with `ValueError` by `C19_fromdict_error`) -/
example : (fromdictCheck ⟨none, some [.str "x", .str "y"], some [[0], [1, 0]], .none⟩ false).toOption = none := by decide
example : (fromdictCheck ⟨some [.str "a", .other], some [.str "x", .str "y"], some [[0], [1, 0]], .none⟩ false).toOption = none := by decide
example : (fromdictCheck ⟨some [.str "a", .str "b"], some [.str "x", .str "y"], some [[0]], .none⟩ false).toOption = none := by decide
example : (fromdictCheck ⟨some [.str "a", .str "b"], some [.str "x", .str "y"], some [[0], [2, 0]], .none⟩ false).toOption = none := by decide
example : (fromdictCheck ⟨some [.str "a", .str "b"], some [.str "x", .str "y"], some [[0], [-1, 0]], .none⟩ false).toOption = none := by decide
example : (fromdictCheck ⟨some [.str "a", .str "b"], some [.str "x", .str "y"], some [[0], [0, 0]], .none⟩ false).toOption = none := by decide
example : (fromdictCheck ⟨some [.str "a", .str "b"], some [.str "x", .str "y"], some [[0], [1, 0]], .empty⟩ false).toOption = none := by decide
example : (fromdictCheck ⟨some [.str "a", .str "b"], some [.str "x", .str "y"], some [[0], [1, 0]], .absent⟩ true).toOption = none := by decide
example : (fromdictCheck ⟨some [.str "a", .str "a"], some [.str "x", .str "y"], some [[0], [1, 0]], .none⟩ false).toOption = none := by decide +kernel
example : (fromdictCheck ⟨some [.str "a", .str "x"], some [.str "x", .str "y"], some [[0], [1, 0]], .none⟩ false).toOption = none := by decide +kernel

/-- a constructed context has at least one object and one property (the hypothesis `0 < K.n` of C16) -/
theorem C19_nonempty {os ps : List Name} {bools : List (List Bool)} {K : Ctx}
    (h : ctxOfTriple os ps bools = .ok K) : 0 < K.n ∧ 0 < K.m := by
  obtain ⟨ht, rfl⟩ := ((C19_ctxOfTriple_iff os ps bools).1 K).mp h
  obtain ⟨ho, _, hp, _⟩ := ht
  exact ⟨List.length_pos_iff.mpr ho, List.length_pos_iff.mpr hp⟩

/-- what `fromdict` accepts (the validation prefix, through the constructor call) is accepted by the
constructor and gives a well-formed, non-empty index-level context of the stored sizes -/
theorem C19_fromdict_WF {d : SDict} {req : Bool} {os ps : List Name} {bools : List (List Bool)}
    (h : fromdictCheck d req = .ok (os, ps, bools)) :
    ∃ K, ctxOfTriple os ps bools = .ok K ∧ K.WF ∧ K.n = os.length ∧ K.m = ps.length ∧
      0 < K.n ∧ 0 < K.m := by
  obtain ⟨_, _, ht, _⟩ := C19_fromdict_faithful h
  obtain ⟨K, hK⟩ := (C19_ctxOfTriple_ok_iff os ps bools).mpr ht
  obtain ⟨h1, h2, _⟩ := C19_faithful hK
  exact ⟨K, hK, C19_establishes_WF hK, h1, h2, C19_nonempty hK⟩

/-- the context with its names: `Context(objects, properties, bools)` succeeds under the same
condition, `.objects` / `.properties` are the given names, unchanged and in the given order, one per
row / column of the table, and the table is the one of `ctxOfTriple` -/
theorem C19_names_reproduced (os ps : List Name) (bools : List (List Bool)) :
    ((∃ C, lctxOfTriple os ps bools = .ok C) ↔ TripleOk os ps bools) ∧
    (∀ C, lctxOfTriple os ps bools = .ok C →
      C.objs = os ∧ C.props = ps ∧ ctxOfTriple os ps bools = .ok C.K ∧
      C.K.n = C.objs.length ∧ C.K.m = C.props.length ∧ C.objs.Nodup ∧ C.props.Nodup ∧
      (∀ x, x ∈ C.objs → x ∉ C.props) ∧ C.K.WF) ∧
    (∀ e, lctxOfTriple os ps bools = .error e → e = .valueError ∧ ¬ TripleOk os ps bools) := by
  rw [lctxOfTriple_eq]
  refine ⟨?_, fun C hC => ?_, fun e he => ?_⟩
  · rw [← C19_ctxOfTriple_ok_iff]
    exact ⟨fun ⟨C, hC⟩ => (map_eq_ok_iff.mp hC).imp fun _ => And.left, fun ⟨K, hK⟩ => ⟨_, map_eq_ok_iff.mpr ⟨K, hK, rfl⟩⟩⟩
  · obtain ⟨K, hK, rfl⟩ := map_eq_ok_iff.mp hC
    have ht := (((C19_ctxOfTriple_iff os ps bools).1 K).mp hK).1
    exact ⟨rfl, rfl, hK, (C19_faithful hK).1, (C19_faithful hK).2.1, ht.2.1, ht.2.2.2.1, ht.2.2.2.2.1,
      C19_establishes_WF hK⟩
  · have hK := map_eq_error_iff.mp he
    obtain rfl := (C19_ctxOfTriple_iff os ps bools).2.2 e hK
    exact ⟨rfl, (C19_ctxOfTriple_iff os ps bools).2.1.mp hK⟩

/-- `fromdict` reproduces the stored names: the result carries exactly the stored strings -/
theorem C19_fromdict_names (d : SDict) (req : Bool) :
    (∀ C, lctxOfDict d req = .ok C →
      d.objects = some (C.objs.map SName.str) ∧ d.properties = some (C.props.map SName.str) ∧
      C.K.WF ∧ C.K.n = C.objs.length ∧ C.K.m = C.props.length) ∧
    (∀ e, lctxOfDict d req = .error e → e = .valueError) ∧
    ((∃ C, lctxOfDict d req = .ok C) ↔ ∃ res, fromdictCheck d req = .ok res) := by
  unfold lctxOfDict
  rcases hres : fromdictCheck d req with e | ⟨os, ps, bools⟩
  · obtain rfl := C19_fromdict_error d req e hres
    exact ⟨fun C hC => (nomatch hC), fun e he => (Except.error.inj he).symm,
      fun ⟨C, hC⟩ => (nomatch hC), fun ⟨res, hr⟩ => (nomatch hr)⟩
  · obtain ⟨_, ho, hp, _⟩ := (C19_fromdict_iff d req os ps bools).mp hres
    obtain ⟨_, _, ht, _⟩ := C19_fromdict_faithful hres
    obtain ⟨hex, hok, herr⟩ := C19_names_reproduced os ps bools
    refine ⟨fun C hC => ?_, fun e he => (herr e he).1, fun _ => ⟨_, rfl⟩, fun _ => hex.mpr ht⟩
    obtain ⟨rfl, rfl, _, hn, hm, _, _, _, hW⟩ := hok C hC
    exact ⟨ho, hp, hW, hn, hm⟩

example : (lctxOfTriple ["a", "b"] ["x", "y", "z"] [[true, false, true], [false, false, true]]).toOption.map
    (fun C => (C.objs, C.props, C.K.n, C.K.m, C.K.rows)) = some (["a", "b"], ["x", "y", "z"], 2, 3, #[5, 4]) := by
  decide +kernel
example : (lctxOfDict ⟨some [.str "a", .str "b"], some [.str "x", .str "y"], some [[0], [1, 0]], .none⟩ false).toOption.map
    (fun C => (C.objs, C.props, C.K.rows)) = some (["a", "b"], ["x", "y"], #[1, 3]) := by decide +kernel
example : (lctxOfTriple ["a", "a"] ["x"] [[true], [true]]).toOption.isNone = true := by decide

end FCA

#print axioms FCA.C19_hasDup_iff
#print axioms FCA.C19_ctor_iff
#print axioms FCA.C19_ctxOfTriple_iff
#print axioms FCA.C19_ctxOfTriple_ok_iff
#print axioms FCA.C19_rowMask_spec
#print axioms FCA.C19_faithful
#print axioms FCA.C19_establishes_WF
#print axioms FCA.C19_fromdict_error
#print axioms FCA.C19_fromdict_accepts_iff
#print axioms FCA.C19_fromdict_iff
#print axioms FCA.C19_fromdict_faithful
#print axioms FCA.C19_nonempty
#print axioms FCA.C19_fromdict_WF
#print axioms FCA.C19_names_reproduced
#print axioms FCA.C19_fromdict_names
