import FCA.Model.Misc
import FCA.Proofs.Galois
import FCA.Proofs.LatticeSpec
import FCA.Proofs.PredNorm
/-
C08 — Order and logical-relation predicates on concepts match their extents.

The predicate kernels are expressions over `x = self._extent`, `y = other._extent`,
`t = lattice.supremum._extent`. `PredKernels.Correct` is the specification; it is proved here for the
pinned copy the driver executes and in `C08Gen.lean` for the kernels regenerated from the source.
-/
namespace FCA

structure PredKernels where
  implies : Nat → Nat → Nat → Bool
  subsumes : Nat → Nat → Nat → Bool
  properly_implies : Nat → Nat → Nat → Bool
  properly_subsumes : Nat → Nat → Nat → Bool
  incompatible_with : Nat → Nat → Nat → Bool
  complement_of : Nat → Nat → Nat → Bool
  subcontrary_with : Nat → Nat → Nat → Bool
  orthogonal_to : Nat → Nat → Nat → Bool

/-- what the property demands of the eight predicates, as statements about extents -/
structure PredKernels.Correct (P : PredKernels) : Prop where
  implies : ∀ x y t, P.implies x y t = true ↔ x ⊆ᵇ y
  subsumes : ∀ x y t, P.subsumes x y t = true ↔ y ⊆ᵇ x
  properly_implies : ∀ x y t, P.properly_implies x y t = true ↔ x ⊆ᵇ y ∧ x ≠ y
  properly_subsumes : ∀ x y t, P.properly_subsumes x y t = true ↔ y ⊆ᵇ x ∧ x ≠ y
  incompatible_with : ∀ x y t, P.incompatible_with x y t = true ↔ ¬ ∃ i, i ∈ᵇ x ∧ i ∈ᵇ y
  complement_of : ∀ x y t, P.complement_of x y t = true ↔ (¬ ∃ i, i ∈ᵇ x ∧ i ∈ᵇ y) ∧ x ||| y = t
  subcontrary_with : ∀ x y t, P.subcontrary_with x y t = true ↔ (∃ i, i ∈ᵇ x ∧ i ∈ᵇ y) ∧ x ||| y = t
  orthogonal_to : ∀ x y t, P.orthogonal_to x y t = true ↔
    (∃ i, i ∈ᵇ x ∧ i ∈ᵇ y) ∧ ¬ x ⊆ᵇ y ∧ ¬ y ⊆ᵇ x ∧ x ||| y ≠ t

def Pinned.kernels : PredKernels :=
  ⟨Pinned.implies, Pinned.subsumes, Pinned.properly_implies, Pinned.properly_subsumes,
   Pinned.incompatible_with, Pinned.complement_of, Pinned.subcontrary_with, Pinned.orthogonal_to⟩

theorem and_eq_right_iff' {x y : Nat} : x &&& y = y ↔ y ⊆ᵇ x := by rw [Nat.and_comm]; exact and_eq_left_iff
theorem or_eq_right_iff' {x y : Nat} : x ||| y = y ↔ x ⊆ᵇ y := by rw [Nat.or_comm]; exact or_eq_left_iff
theorem and_eq_zero_iff' {x y : Nat} : x &&& y = 0 ↔ ¬ ∃ i, i ∈ᵇ x ∧ i ∈ᵇ y :=
  and_eq_zero_iff_forall.trans not_exists.symm

attribute [pred_norm] Pinned.kernels Pinned.implies Pinned.subsumes Pinned.properly_implies Pinned.properly_subsumes
  Pinned.incompatible_with Pinned.complement_of Pinned.subcontrary_with Pinned.orthogonal_to
  and_eq_left_iff or_eq_left_iff and_eq_right_iff' or_eq_right_iff' and_eq_zero_iff' and_ne_zero_iff and_assoc
  eq_and_left_iff eq_and_right_iff eq_or_left_iff eq_or_right_iff zero_eq_and_iff
  beq_iff_eq bne_iff_ne Bool.and_eq_true Bool.or_eq_true Bool.not_eq_true' bne_eq_false_iff_eq beq_eq_false_iff_ne Bool.not_not ne_eq not_not

/-- For the present text of the source `simp only [pred_norm]` alone closes all sixteen goals, of the pinned and of
the generated instance. The set holds the lemmas that read `==`, `!=`, `&&`, `||`, `!` as propositions, so that the
default simp set, which is slow to search, is not needed. The alternatives after `<;>` are reached only by a kernel
rewritten in an equivalent way (`x | y == y` for `x & y == x`, swapped operands, `== 0` for `not`), when simp leaves
a propositional rest. -/
macro "pred_norm" : tactic => `(tactic|
  (simp only [pred_norm] <;> first | done | tauto | (constructor <;> intro h <;> simp_all [eq_comm])))

theorem C08_pinned_correct : Pinned.kernels.Correct where
  implies := by intro x y t; pred_norm
  subsumes := by intro x y t; pred_norm
  properly_implies := by intro x y t; pred_norm
  properly_subsumes := by intro x y t; pred_norm
  incompatible_with := by intro x y t; pred_norm
  complement_of := by intro x y t; pred_norm
  subcontrary_with := by intro x y t; pred_norm
  orthogonal_to := by intro x y t; pred_norm

variable {P : PredKernels}

/-- `x <= y` iff extent(x) ⊆ extent(y) iff intent(y) ⊆ intent(x) -/
theorem C08_intent_dual (K : Ctx) (h : K.WF) (x bx y by' : Nat) (hx : isConcept K x bx) (hy : isConcept K y by') :
    x ⊆ᵇ y ↔ by' ⊆ᵇ bx :=
  concept_order_dual hx hy

theorem C08_implies_intent (hP : P.Correct) (K : Ctx) (h : K.WF) (x bx y by' t : Nat)
    (hx : isConcept K x bx) (hy : isConcept K y by') : P.implies x y t = true ↔ by' ⊆ᵇ bx := by
  rw [hP.implies]; exact C08_intent_dual K h x bx y by' hx hy

/-- `>=` is the converse of `<=`; `<`, `>` are the strict versions -/
theorem C08_converse_strict (hP : P.Correct) (x y t : Nat) :
    (P.subsumes x y t = P.implies y x t) ∧
    (P.properly_implies x y t = true ↔ P.implies x y t = true ∧ x ≠ y) ∧
    (P.properly_subsumes x y t = true ↔ P.subsumes x y t = true ∧ x ≠ y) := by
  refine ⟨?_, ?_, ?_⟩
  · rw [Bool.eq_iff_iff, hP.subsumes, hP.implies]
  · rw [hP.properly_implies, hP.implies]
  · rw [hP.properly_subsumes, hP.subsumes]

/-- the predicates form a partial order; distinct concepts (= distinct extents) are never mutually `<=` -/
theorem C08_partial_order (hP : P.Correct) (t : Nat) :
    (∀ x, P.implies x x t = true) ∧
    (∀ x y z, P.implies x y t = true → P.implies y z t = true → P.implies x z t = true) ∧
    (∀ x y, P.implies x y t = true → P.implies y x t = true → x = y) := by
  refine ⟨fun x => (hP.implies x x t).mpr (sub_refl x), ?_, ?_⟩
  · intro x y z h1 h2
    exact (hP.implies x z t).mpr (sub_trans ((hP.implies x y t).mp h1) ((hP.implies y z t).mp h2))
  · intro x y h1 h2
    exact sub_antisymm ((hP.implies x y t).mp h1) ((hP.implies y x t).mp h2)

/-- concepts with the same extent are the same concept -/
theorem C08_concept_ext (K : Ctx) (x b b' : Nat) (h1 : isConcept K x b) (h2 : isConcept K x b') : b = b' :=
  concept_intent_unique h1 h2

/-- `complement_of` / `subcontrary_with`: "together contain every object" -/
theorem C08_union_all (x y t : Nat) (hx : x ⊆ᵇ t) (hy : y ⊆ᵇ t) :
    x ||| y = t ↔ ∀ i, i ∈ᵇ t → i ∈ᵇ x ∨ i ∈ᵇ y :=
  or_eq_iff_forall hx hy

/-- `orthogonal_to`: they share an object, neither contains the other, and some object lies in neither -/
theorem C08_orthogonal_neither (hP : P.Correct) (x y t : Nat) (hx : x ⊆ᵇ t) (hy : y ⊆ᵇ t) :
    P.orthogonal_to x y t = true ↔
      (∃ i, i ∈ᵇ x ∧ i ∈ᵇ y) ∧ ¬ x ⊆ᵇ y ∧ ¬ y ⊆ᵇ x ∧ ∃ i, i ∈ᵇ t ∧ ¬ i ∈ᵇ x ∧ ¬ i ∈ᵇ y := by
  rw [hP.orthogonal_to, Ne, C08_union_all x y t hx hy]
  push Not
  rfl

/-- the third argument the methods pass, `self.lattice.supremum._extent`, is the set of all objects -/
theorem C08_lattice_supremum (K : Ctx) (h : K.WF) :
    ∃ c, (mkLattice K).supremum = some c ∧ c.extent = full K.n := (mkLattice_spec h).get_last

theorem C08_lattice_complement (hP : P.Correct) (K : Ctx) (h : K.WF) (i j : Nat) (a b : LConcept)
    (ha : (mkLattice K)[i]? = some a) (hb : (mkLattice K)[j]? = some b) :
    P.complement_of a.extent b.extent (full K.n) = true ↔
      (¬ ∃ o, o ∈ᵇ a.extent ∧ o ∈ᵇ b.extent) ∧ ∀ o, o < K.n → o ∈ᵇ a.extent ∨ o ∈ᵇ b.extent := by
  have S := mkLattice_spec h
  rw [hP.complement_of, or_eq_full_iff (S.bounded ha) (S.bounded hb)]

theorem C08_lattice_subcontrary (hP : P.Correct) (K : Ctx) (h : K.WF) (i j : Nat) (a b : LConcept)
    (ha : (mkLattice K)[i]? = some a) (hb : (mkLattice K)[j]? = some b) :
    P.subcontrary_with a.extent b.extent (full K.n) = true ↔
      (∃ o, o ∈ᵇ a.extent ∧ o ∈ᵇ b.extent) ∧ ∀ o, o < K.n → o ∈ᵇ a.extent ∨ o ∈ᵇ b.extent := by
  have S := mkLattice_spec h
  rw [hP.subcontrary_with, or_eq_full_iff (S.bounded ha) (S.bounded hb)]

theorem C08_lattice_orthogonal (hP : P.Correct) (K : Ctx) (h : K.WF) (i j : Nat) (a b : LConcept)
    (ha : (mkLattice K)[i]? = some a) (hb : (mkLattice K)[j]? = some b) :
    P.orthogonal_to a.extent b.extent (full K.n) = true ↔
      (∃ o, o ∈ᵇ a.extent ∧ o ∈ᵇ b.extent) ∧ ¬ a.extent ⊆ᵇ b.extent ∧ ¬ b.extent ⊆ᵇ a.extent ∧
        ∃ o, o < K.n ∧ ¬ o ∈ᵇ a.extent ∧ ¬ o ∈ᵇ b.extent := by
  have S := mkLattice_spec h
  rw [hP.orthogonal_to, or_ne_full_iff (S.bounded ha) (S.bounded hb)]

/-- `x <= y` iff extent(x) ⊆ extent(y) iff intent(y) ⊆ intent(x), for members of the lattice -/
theorem C08_lattice_implies (hP : P.Correct) (K : Ctx) (h : K.WF) (i j : Nat) (a b : LConcept) (t : Nat)
    (ha : (mkLattice K)[i]? = some a) (hb : (mkLattice K)[j]? = some b) :
    (P.implies a.extent b.extent t = true ↔ a.extent ⊆ᵇ b.extent) ∧
    (P.implies a.extent b.extent t = true ↔ b.intent ⊆ᵇ a.intent) := by
  have S := mkLattice_spec h
  have ca : isConcept K a.extent a.intent := isConcept_iff_closed.mpr ⟨S.closed ha, S.intent ha⟩
  have cb : isConcept K b.extent b.intent := isConcept_iff_closed.mpr ⟨S.closed hb, S.intent hb⟩
  exact ⟨hP.implies _ _ _, C08_implies_intent hP K h _ _ _ _ t ca cb⟩

/-- distinct members are never mutually `<=`: mutual `<=` forces the same position (the same object) -/
theorem C08_lattice_antisymm (hP : P.Correct) (K : Ctx) (h : K.WF) (i j : Nat) (a b : LConcept) (t : Nat)
    (ha : (mkLattice K)[i]? = some a) (hb : (mkLattice K)[j]? = some b)
    (h1 : P.implies a.extent b.extent t = true) (h2 : P.implies b.extent a.extent t = true) : i = j := by
  have S := mkLattice_spec h
  have he : a.extent = b.extent := (C08_partial_order hP t).2.2 _ _ h1 h2
  have e1 := S.find_get ha
  have e2 := S.find_get hb
  rw [he] at e1
  rw [e1] at e2
  exact Option.some.inj e2

example : Pinned.kernels.orthogonal_to 0b0110 0b0011 0b1111 = true := by decide
example : Pinned.kernels.subcontrary_with 0b110 0b011 0b111 = true := by decide

end FCA
#print axioms FCA.C08_pinned_correct
#print axioms FCA.C08_intent_dual
#print axioms FCA.C08_partial_order
#print axioms FCA.C08_orthogonal_neither
