import FCA.Proofs.JoinMeet
import FCA.Proofs.LatticeSpec
import FCA.Model.Misc
/-
C07 — join and meet are the least upper and greatest lower bounds.

Concepts are ordered by inclusion of their extents.  `lattice.join(cs)` looks up
`reduce_or(extents).double()`, `lattice.meet(cs)` looks up `reduce_and(extents).double()` in the
extent → concept mapping (`Lattice.find`); `Concept.join/meet` (`|`, `&`) do the same for two.
-/
namespace FCA

/-- binary join on extents: closure of the union -/
def extSup (K : Ctx) (x y : Nat) : Nat := K.doubleObj (x ||| y)
/-- binary meet on extents: the intersection -/
def extInf (x y : Nat) : Nat := x &&& y

/-! ### closed sets: order theory of a well-formed context, no lattice needed -/

/-- the closure of the union is closed, an upper bound, and below every closed upper bound -/
theorem C07_join_lub (K : Ctx) (h : K.WF) (xs : List Nat) (hx : ∀ x ∈ xs, closedObj K x) :
    closedObj K (K.doubleObj (xs.foldl (· ||| ·) 0)) ∧
    (∀ x ∈ xs, x ⊆ᵇ K.doubleObj (xs.foldl (· ||| ·) 0)) ∧
    (∀ U, closedObj K U → (∀ x ∈ xs, x ⊆ᵇ U) → K.doubleObj (xs.foldl (· ||| ·) 0) ⊆ᵇ U) := by
  have hb : Bounded K.n (xs.foldl (· ||| ·) 0) := bounded_foldl_or (bounded_zero _) fun x hxm => (hx x hxm).1
  exact ⟨doubleObj_closed h _, fun x hxm => sub_trans ((foldl_or_sub_iff.mp (sub_refl _)).2 x hxm) (sub_doubleObj h hb),
    fun U hU hUx => closed_sub_of_sub hU (foldl_or_sub_iff.mpr ⟨zero_sub U, hUx⟩)⟩

/-- the intersection of closed sets (inside the set of all objects) is closed: `double()` is the
identity on it -/
theorem C07_meet_closed (K : Ctx) (h : K.WF) (xs : List Nat) (hx : ∀ x ∈ xs, closedObj K x) :
    closedObj K (xs.foldl (· &&& ·) (full K.n)) ∧
    K.doubleObj (xs.foldl (· &&& ·) (full K.n)) = xs.foldl (· &&& ·) (full K.n) :=
  ⟨foldl_and_closed h (full_closed h) hx, (foldl_and_closed h (full_closed h) hx).2⟩

/-- the intersection is a lower bound and above every closed lower bound -/
theorem C07_meet_glb (K : Ctx) (_h : K.WF) (xs : List Nat) :
    (∀ x ∈ xs, xs.foldl (· &&& ·) (full K.n) ⊆ᵇ x) ∧
    (∀ U, closedObj K U → (∀ x ∈ xs, U ⊆ᵇ x) → U ⊆ᵇ xs.foldl (· &&& ·) (full K.n)) := by
  refine ⟨fun x hxm i hi => ((mem_foldl_and xs _ i).mp hi).2 x hxm, fun U hU hUx i hi => ?_⟩
  exact (mem_foldl_and xs _ i).mpr ⟨mem_full.mpr (hU.1 i hi), fun x hxm => hUx x hxm i hi⟩

/-- `lattice.join(cs)` never raises `KeyError`: it returns a valid position whose extent is the closure
of the union of the extents (an invalid position contributes the empty set in the model) -/
theorem C07_lookup_defined_join (K : Ctx) (h : K.WF) (cs : List Nat) :
    ∃ k, latticeJoin K (mkLattice K) cs = some k ∧ k < (mkLattice K).length ∧
      (mkLattice K).extentAt k = K.doubleObj ((cs.map (mkLattice K).extentAt).foldl (· ||| ·) 0) := by
  unfold latticeJoin
  rw [foldl_extentAt _ (· ||| ·)]
  apply (mkLattice_spec h).find_closed
  exact doubleObj_closed h _

/-- `lattice.meet(cs)` never raises `KeyError`; for valid positions the extent of the result is the
plain intersection of the extents -/
theorem C07_lookup_defined_meet (K : Ctx) (h : K.WF) (cs : List Nat) :
    ∃ k, latticeMeet K (mkLattice K) cs = some k ∧ k < (mkLattice K).length ∧
      (mkLattice K).extentAt k = K.doubleObj ((cs.map (mkLattice K).extentAt).foldl (· &&& ·) (full K.n)) ∧
      ((∀ c ∈ cs, c < (mkLattice K).length) →
        (mkLattice K).extentAt k = (cs.map (mkLattice K).extentAt).foldl (· &&& ·) (full K.n)) := by
  unfold latticeMeet
  rw [foldl_extentAt _ (· &&& ·)]
  obtain ⟨k, h1, h2, h3⟩ := (mkLattice_spec h).find_closed (doubleObj_closed h _)
  refine ⟨k, h1, h2, h3, fun hv => ?_⟩
  rw [h3]
  exact (C07_meet_closed K h _ (List.forall_mem_map.mpr fun c hc => (mkLattice_spec h).extentAt_closed (hv c hc))).2

/-- both lookups are defined -/
theorem C07_lookup_defined (K : Ctx) (h : K.WF) (cs : List Nat) :
    (latticeJoin K (mkLattice K) cs).isSome ∧ (latticeMeet K (mkLattice K) cs).isSome := by
  obtain ⟨k, hk, _⟩ := C07_lookup_defined_join K h cs
  obtain ⟨k', hk', _⟩ := C07_lookup_defined_meet K h cs
  simp [hk, hk']

/-- `lattice.join(cs)` is the least concept of the lattice above all `cs` -/
theorem C07_join_is_lub (K : Ctx) (h : K.WF) (cs : List Nat) (hv : ∀ c ∈ cs, c < (mkLattice K).length) :
    ∃ k, latticeJoin K (mkLattice K) cs = some k ∧ k < (mkLattice K).length ∧
      (∀ c ∈ cs, (mkLattice K).extentAt c ⊆ᵇ (mkLattice K).extentAt k) ∧
      (∀ u, u < (mkLattice K).length → (∀ c ∈ cs, (mkLattice K).extentAt c ⊆ᵇ (mkLattice K).extentAt u) →
        (mkLattice K).extentAt k ⊆ᵇ (mkLattice K).extentAt u) := by
  obtain ⟨k, h1, h2, h3⟩ := C07_lookup_defined_join K h cs
  obtain ⟨_, hub, hl⟩ := C07_join_lub K h _
    (List.forall_mem_map.mpr fun c hc => (mkLattice_spec h).extentAt_closed (hv c hc))
  refine ⟨k, h1, h2, ?_⟩
  rw [h3]
  exact ⟨fun c hc => hub _ (List.mem_map_of_mem hc),
    fun u hu hcu => hl _ ((mkLattice_spec h).extentAt_closed hu) (List.forall_mem_map.mpr hcu)⟩

/-- `lattice.meet(cs)` is the greatest concept of the lattice below all `cs` -/
theorem C07_meet_is_glb (K : Ctx) (h : K.WF) (cs : List Nat) (hv : ∀ c ∈ cs, c < (mkLattice K).length) :
    ∃ k, latticeMeet K (mkLattice K) cs = some k ∧ k < (mkLattice K).length ∧
      (∀ c ∈ cs, (mkLattice K).extentAt k ⊆ᵇ (mkLattice K).extentAt c) ∧
      (∀ u, u < (mkLattice K).length → (∀ c ∈ cs, (mkLattice K).extentAt u ⊆ᵇ (mkLattice K).extentAt c) →
        (mkLattice K).extentAt u ⊆ᵇ (mkLattice K).extentAt k) := by
  obtain ⟨k, h1, h2, _, h4⟩ := C07_lookup_defined_meet K h cs
  have h3 := h4 hv
  obtain ⟨hlb, hg⟩ := C07_meet_glb K h (cs.map (mkLattice K).extentAt)
  refine ⟨k, h1, h2, ?_⟩
  rw [h3]
  exact ⟨fun c hc => hlb _ (List.mem_map_of_mem hc),
    fun u hu hcu => hg _ ((mkLattice_spec h).extentAt_closed hu) (List.forall_mem_map.mpr hcu)⟩

/-- the empty join is the infimum: concept number `0`, extent `∅''` -/
theorem C07_empty_join (K : Ctx) (h : K.WF) :
    latticeJoin K (mkLattice K) [] = some 0 ∧ (mkLattice K).extentAt 0 = K.doubleObj 0 := by
  refine ⟨?_, (mkLattice_spec h).extentAt_zero⟩
  show (mkLattice K).find (K.doubleObj 0) = some 0
  rw [← (mkLattice_spec h).extentAt_zero]
  exact (mkLattice_spec h).find_extentAt ((mkLattice_spec h).length_pos)

/-- the empty meet is the supremum: the last concept, extent = all objects -/
theorem C07_empty_meet (K : Ctx) (h : K.WF) :
    latticeMeet K (mkLattice K) [] = some ((mkLattice K).length - 1) ∧
    (mkLattice K).extentAt ((mkLattice K).length - 1) = full K.n := by
  refine ⟨?_, (mkLattice_spec h).extentAt_last⟩
  show (mkLattice K).find (K.doubleObj (full K.n)) = some _
  rw [(full_closed h).2, ← (mkLattice_spec h).extentAt_last]
  have := (mkLattice_spec h).length_pos
  exact (mkLattice_spec h).find_extentAt (by omega)

/-- `Concept.join` (`a | b`) is `lattice.join([a, b])`; this half needs nothing about the lattice -/
theorem C07_binary_agrees_join (K : Ctx) (L : Lattice) (a b : Nat) :
    conceptJoin K L a b = latticeJoin K L [a, b] := by
  show L.find (K.doubleObj (L.extentAt a ||| L.extentAt b)) = L.find (K.doubleObj (0 ||| L.extentAt a ||| L.extentAt b))
  rw [Nat.zero_or]

/-- `Concept.join` (`a | b`) is `lattice.join([a, b])`, `Concept.meet` (`a & b`) is `lattice.meet([a, b])` -/
theorem C07_binary_agrees (K : Ctx) (h : K.WF) (a b : Nat) :
    conceptJoin K (mkLattice K) a b = latticeJoin K (mkLattice K) [a, b] ∧
    conceptMeet K (mkLattice K) a b = latticeMeet K (mkLattice K) [a, b] := by
  refine ⟨C07_binary_agrees_join K _ a b, ?_⟩
  show (mkLattice K).find (K.doubleObj ((mkLattice K).extentAt a &&& (mkLattice K).extentAt b)) =
    (mkLattice K).find (K.doubleObj (full K.n &&& (mkLattice K).extentAt a &&& (mkLattice K).extentAt b))
  rw [Nat.and_comm (full K.n),
    and_eq_left_iff.mpr (bounded_iff_sub_full.mp ((mkLattice_spec h).extentAt_bounded a))]

/-- the binary operations on positions in terms of `extSup` / `extInf` on extents -/
theorem C07_concept_join_spec (K : Ctx) (h : K.WF) (a b : Nat) :
    ∃ k, conceptJoin K (mkLattice K) a b = some k ∧ k < (mkLattice K).length ∧
      (mkLattice K).extentAt k = extSup K ((mkLattice K).extentAt a) ((mkLattice K).extentAt b) :=
  (mkLattice_spec h).find_closed (doubleObj_closed h _)

theorem C07_concept_meet_spec (K : Ctx) (h : K.WF) (a b : Nat)
    (ha : a < (mkLattice K).length) (hb : b < (mkLattice K).length) :
    ∃ k, conceptMeet K (mkLattice K) a b = some k ∧ k < (mkLattice K).length ∧
      (mkLattice K).extentAt k = extInf ((mkLattice K).extentAt a) ((mkLattice K).extentAt b) := by
  have hc := and_closed h ((mkLattice_spec h).extentAt_closed ha) ((mkLattice_spec h).extentAt_closed hb)
  unfold conceptMeet Pinned.meet_common
  rw [hc.2]
  exact (mkLattice_spec h).find_closed hc

theorem C07_sup_comm (K : Ctx) (x y : Nat) : extSup K x y = extSup K y x := by
  unfold extSup; rw [Nat.or_comm]

theorem C07_inf_comm (x y : Nat) : extInf x y = extInf y x := Nat.and_comm x y

theorem C07_sup_closed (K : Ctx) (h : K.WF) (x y : Nat) (hx : Bounded K.n x) (hy : Bounded K.n y) :
    closedObj K (extSup K x y) := doubleObj_closed h _

theorem C07_inf_closed (K : Ctx) (h : K.WF) (x y : Nat) (hx : closedObj K x) (hy : closedObj K y) :
    closedObj K (extInf x y) := and_closed h hx hy

theorem C07_sup_assoc (K : Ctx) (h : K.WF) (x y z : Nat)
    (hx : Bounded K.n x) (hy : Bounded K.n y) (hz : Bounded K.n z) :
    extSup K (extSup K x y) z = extSup K x (extSup K y z) := by
  unfold extSup
  rw [double_or_absorb h (bounded_or hx hy) hz, Nat.or_comm x (K.doubleObj (y ||| z)),
    double_or_absorb h (bounded_or hy hz) hx, Nat.or_comm (y ||| z) x, Nat.or_assoc]

theorem C07_inf_assoc (x y z : Nat) : extInf (extInf x y) z = extInf x (extInf y z) := Nat.and_assoc x y z

theorem C07_sup_idem (K : Ctx) (x : Nat) (hx : closedObj K x) : extSup K x x = x := by
  unfold extSup; rw [Nat.or_self]; exact hx.2

theorem C07_inf_idem (x : Nat) : extInf x x = x := Nat.and_self x

/-- `x ⊔ (x ⊓ y) = x` -/
theorem C07_absorb_sup_inf (K : Ctx) (x y : Nat) (hx : closedObj K x) : extSup K x (extInf x y) = x := by
  unfold extSup extInf
  have : x ||| (x &&& y) = x := or_eq_left_iff.mpr (fun i hi => (mem_and.mp hi).1)
  rw [this]; exact hx.2

/-- `x ⊓ (x ⊔ y) = x` -/
theorem C07_absorb_inf_sup (K : Ctx) (h : K.WF) (x y : Nat) (hx : Bounded K.n x) (hy : Bounded K.n y) :
    extInf x (extSup K x y) = x := by
  unfold extSup extInf
  rw [and_eq_left_iff]
  exact sub_trans (fun i hi => mem_or.mpr (Or.inl hi)) (sub_doubleObj h (bounded_or hx hy))

/-- `x ≤ y ⇔ x ⊔ y = y ⇔ x ⊓ y = x` -/
theorem C07_order_iff (K : Ctx) (h : K.WF) (x y : Nat) (hx : closedObj K x) (hy : closedObj K y) :
    (x ⊆ᵇ y ↔ extSup K x y = y) ∧ (x ⊆ᵇ y ↔ extInf x y = x) := by
  refine ⟨⟨fun hs => ?_, fun he => ?_⟩, and_eq_left_iff.symm⟩
  · unfold extSup
    have : x ||| y = y := by rw [Nat.or_comm]; exact or_eq_left_iff.mpr hs
    rw [this]; exact hy.2
  · rw [← he]
    exact sub_trans (fun i hi => mem_or.mpr (Or.inl hi)) (sub_doubleObj h (bounded_or hx.1 hy.1))

/-! ### the same laws for the concepts of the lattice (positions; `is` = same position) -/

theorem C07_concept_comm (K : Ctx) (L : Lattice) (a b : Nat) :
    conceptJoin K L a b = conceptJoin K L b a ∧ conceptMeet K L a b = conceptMeet K L b a := by
  unfold conceptJoin conceptMeet Pinned.join_common Pinned.meet_common
  rw [Nat.or_comm, Nat.and_comm]
  exact ⟨rfl, rfl⟩

theorem C07_concept_idem (K : Ctx) (h : K.WF) (a : Nat) (ha : a < (mkLattice K).length) :
    conceptJoin K (mkLattice K) a a = some a ∧ conceptMeet K (mkLattice K) a a = some a := by
  have S := mkLattice_spec h
  unfold conceptJoin conceptMeet Pinned.join_common Pinned.meet_common
  rw [Nat.or_self, Nat.and_self, (S.extentAt_closed ha).2]
  exact ⟨S.find_extentAt ha, S.find_extentAt ha⟩

/-- `a <= b` iff `a | b is b` iff `a & b is a` -/
theorem C07_concept_order_iff (K : Ctx) (h : K.WF) (a b : Nat)
    (ha : a < (mkLattice K).length) (hb : b < (mkLattice K).length) :
    ((mkLattice K).extentAt a ⊆ᵇ (mkLattice K).extentAt b ↔ conceptJoin K (mkLattice K) a b = some b) ∧
    ((mkLattice K).extentAt a ⊆ᵇ (mkLattice K).extentAt b ↔ conceptMeet K (mkLattice K) a b = some a) := by
  have S := mkLattice_spec h
  have hca := S.extentAt_closed ha
  have hcb := S.extentAt_closed hb
  obtain ⟨o1, o2⟩ := C07_order_iff K h _ _ hca hcb
  refine ⟨o1.trans ?_, o2.trans ?_⟩
  · show _ ↔ (mkLattice K).find (extSup K _ _) = some b
    rw [S.find_eq_some_iff, and_iff_right hb, eq_comm]
  · show _ ↔ (mkLattice K).find (K.doubleObj (extInf _ _)) = some a
    rw [(C07_inf_closed K h _ _ hca hcb).2, S.find_eq_some_iff, and_iff_right ha, eq_comm]

/-- associativity: `(a | b) | c is a | (b | c)`, `(a & b) & c is a & (b & c)` -/
theorem C07_concept_assoc (K : Ctx) (h : K.WF) (a b c : Nat)
    (ha : a < (mkLattice K).length) (hb : b < (mkLattice K).length) (hc : c < (mkLattice K).length) :
    (∃ ab bc, conceptJoin K (mkLattice K) a b = some ab ∧ conceptJoin K (mkLattice K) b c = some bc ∧
      conceptJoin K (mkLattice K) ab c = conceptJoin K (mkLattice K) a bc) ∧
    (∃ ab bc, conceptMeet K (mkLattice K) a b = some ab ∧ conceptMeet K (mkLattice K) b c = some bc ∧
      conceptMeet K (mkLattice K) ab c = conceptMeet K (mkLattice K) a bc) := by
  have S := mkLattice_spec h
  constructor
  · obtain ⟨ab, h1, _, e1⟩ := C07_concept_join_spec K h a b
    obtain ⟨bc, h2, _, e2⟩ := C07_concept_join_spec K h b c
    refine ⟨ab, bc, h1, h2, ?_⟩
    show (mkLattice K).find (extSup K _ _) = (mkLattice K).find (extSup K _ _)
    rw [e1, e2, C07_sup_assoc K h _ _ _ (S.extentAt_bounded a) (S.extentAt_bounded b) (S.extentAt_bounded c)]
  · obtain ⟨ab, h1, _, e1⟩ := C07_concept_meet_spec K h a b ha hb
    obtain ⟨bc, h2, _, e2⟩ := C07_concept_meet_spec K h b c hb hc
    refine ⟨ab, bc, h1, h2, ?_⟩
    show (mkLattice K).find (K.doubleObj (extInf _ _)) = (mkLattice K).find (K.doubleObj (extInf _ _))
    rw [e1, e2, C07_inf_assoc]

/-- absorption: `a | (a & b) is a`, `a & (a | b) is a` -/
theorem C07_concept_absorb (K : Ctx) (h : K.WF) (a b : Nat)
    (ha : a < (mkLattice K).length) (hb : b < (mkLattice K).length) :
    (∃ m, conceptMeet K (mkLattice K) a b = some m ∧ conceptJoin K (mkLattice K) a m = some a) ∧
    (∃ j, conceptJoin K (mkLattice K) a b = some j ∧ conceptMeet K (mkLattice K) a j = some a) := by
  have S := mkLattice_spec h
  have hca := S.extentAt_closed ha
  constructor
  · obtain ⟨m, h1, _, e1⟩ := C07_concept_meet_spec K h a b ha hb
    refine ⟨m, h1, ?_⟩
    show (mkLattice K).find (extSup K _ _) = some a
    rw [e1, C07_absorb_sup_inf K _ _ hca, S.find_extentAt ha]
  · obtain ⟨j, h1, _, e1⟩ := C07_concept_join_spec K h a b
    refine ⟨j, h1, ?_⟩
    show (mkLattice K).find (K.doubleObj (extInf _ _)) = some a
    rw [e1, C07_absorb_inf_sup K h _ _ hca.1 (S.extentAt_bounded b), hca.2, S.find_extentAt ha]

def C07_exK : Ctx := mkCtx 3 3 #[0b011, 0b001, 0b110]
theorem C07_exK_WF : C07_exK.WF := mkCtx_WF rfl (by decide)
/-- extents in iteration order -/
example : (mkLattice C07_exK).map (·.extent) = [0, 1, 4, 3, 5, 7] := by rw [C07_exK, exK_lattice]; decide +kernel
/-- `{0}`, `{2}` and `{0,1}` are closed, while `{1}` is not (`{1}'' = {0,1}`), so that the closure in the join matters -/
example : closedObj C07_exK 1 ∧ closedObj C07_exK 4 ∧ closedObj C07_exK 3 :=
  ⟨⟨bounded_iff_lt.mpr (by decide), by decide +kernel⟩, ⟨bounded_iff_lt.mpr (by decide), by decide +kernel⟩,
   ⟨bounded_iff_lt.mpr (by decide), by decide +kernel⟩⟩
example : ∀ x ∈ [1, 4, 3], closedObj C07_exK x := by
  intro x hx
  simp only [List.mem_cons, List.not_mem_nil, or_false] at hx
  rcases hx with rfl | rfl | rfl <;> exact ⟨bounded_iff_lt.mpr (by decide), by decide +kernel⟩
example : C07_exK.doubleObj ([4, 3].foldl (· ||| ·) 0) = 7 ∧ [4, 3].foldl (· &&& ·) (full C07_exK.n) = 0 := by
  decide +kernel
/-- `{1}` is not closed here (`{1}'' = {0,1}`) -/
example : C07_exK.doubleObj 2 = 3 := by decide +kernel
example : latticeJoin C07_exK (mkLattice C07_exK) [1, 2] = some 4 ∧
    latticeMeet C07_exK (mkLattice C07_exK) [3, 4] = some 1 ∧
    latticeJoin C07_exK (mkLattice C07_exK) [2, 3, 2] = some 5 ∧
    latticeMeet C07_exK (mkLattice C07_exK) [2, 3] = some 0 ∧
    latticeJoin C07_exK (mkLattice C07_exK) [] = some 0 ∧
    latticeMeet C07_exK (mkLattice C07_exK) [] = some 5 ∧
    conceptJoin C07_exK (mkLattice C07_exK) 1 2 = some 4 ∧
    conceptMeet C07_exK (mkLattice C07_exK) 3 4 = some 1 := by rw [C07_exK, exK_lattice]; decide +kernel
example : ∀ c ∈ [2, 3, 2], c < (mkLattice C07_exK).length := by rw [C07_exK, exK_lattice]; decide +kernel

/-- a context where the closure in the join matters: the union `{0} ∪ {1}` of two extents is not an
extent, the join is the top concept -/
def C07_exK2 : Ctx := mkCtx 3 3 #[0b101, 0b110, 0b100]
theorem C07_exK2_WF : C07_exK2.WF := mkCtx_WF rfl (by decide)
example : (mkLattice C07_exK2).map (·.extent) = [0, 1, 2, 7] ∧
    (1 ||| 2 : Nat) = 3 ∧ extSup C07_exK2 1 2 = 7 ∧
    latticeJoin C07_exK2 (mkLattice C07_exK2) [1, 2] = some 3 ∧
    conceptJoin C07_exK2 (mkLattice C07_exK2) 1 2 = some 3 ∧
    conceptMeet C07_exK2 (mkLattice C07_exK2) 1 2 = some 0 := by decide +kernel

end FCA
#print axioms FCA.C07_join_lub
#print axioms FCA.C07_meet_closed
#print axioms FCA.C07_meet_glb
#print axioms FCA.C07_lookup_defined_join
#print axioms FCA.C07_lookup_defined_meet
#print axioms FCA.C07_lookup_defined
#print axioms FCA.C07_join_is_lub
#print axioms FCA.C07_meet_is_glb
#print axioms FCA.C07_empty_join
#print axioms FCA.C07_empty_meet
#print axioms FCA.C07_binary_agrees
#print axioms FCA.C07_sup_assoc
#print axioms FCA.C07_absorb_sup_inf
#print axioms FCA.C07_absorb_inf_sup
#print axioms FCA.C07_order_iff
#print axioms FCA.C07_concept_comm
#print axioms FCA.C07_concept_idem
#print axioms FCA.C07_concept_order_iff
#print axioms FCA.C07_concept_assoc
#print axioms FCA.C07_concept_absorb
