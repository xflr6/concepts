import FCA.Proofs.Render
/-
Property C16 — `relations()` classifies each pair of contingent properties once and correctly.

All table-dependent theorems are stated for an arbitrary `T : JTable` under the decidable
well-formedness predicate `JTable.Good T` (`FCA/Proofs/Junctors.lean`); `C16_table_good` instantiates
it for the pinned table by `decide`.
-/
namespace FCA

/-- the pinned copy of the metaclass table is well-formed (by evaluation) -/
theorem C16_table_good : pinnedTable.Good := pinnedTable_good

/-- two contingent columns produce one of the seven documented patterns -/
theorem C16_code_total {n l r : Nat} (hl : Bounded n l) (hr : Bounded n r)
    (hcl : unaryCode n l = 3) (hcr : unaryCode n r = 3) :
    binaryCode n l r ∈ [15, 7, 13, 11, 9, 14, 6] :=
  (binaryCode_reading hl hr hcl hcr).1

example : Bounded 3 1 ∧ Bounded 3 6 ∧ unaryCode 3 1 = 3 ∧ unaryCode 3 6 = 3 ∧ binaryCode 3 1 6 = 6 :=
  ⟨bounded_iff_lt.mpr (by decide), bounded_iff_lt.mpr (by decide), by decide, by decide, by decide⟩

/-- every one of the seven patterns is produced by some pair of contingent columns (n = 4) -/
example : [binaryCode 4 3 5, binaryCode 4 7 11, binaryCode 4 1 3, binaryCode 4 3 1, binaryCode 4 3 3,
    binaryCode 4 1 2, binaryCode 4 3 12] = [15, 7, 13, 11, 9, 14, 6] := by decide +kernel

/-- the unary code of a column of a context with at least one object is 1, 2 or 3, and says whether
the column is full, empty or neither -/
theorem C16_unary_code {n col : Nat} (hn : 0 < n) :
    unaryCode n col ∈ [1, 2, 3] ∧ (unaryCode n col = 1 ↔ col = full n) ∧
    (unaryCode n col = 2 ↔ col = 0) ∧ (unaryCode n col = 3 ↔ col ≠ 0 ∧ col ≠ full n) :=
  unaryCode_spec hn col

section pair
variable {T : JTable} {n l r cl cr : Nat}

/-- `classifyBinary` is defined on contingent columns, and equals its specification -/
theorem C16_classify_total (hT : T.Good) (hl : Bounded n cl) (hr : Bounded n cr)
    (hcl : unaryCode n cl = 3) (hcr : unaryCode n cr = 3) :
    classifyBinary T n l r cl cr = some (specBinary n l r cl cr) :=
  classifyBinary_eq hT (binaryCode_reading hl hr hcl hcr).1

example : pinnedTable.Good ∧ Bounded 3 1 ∧ Bounded 3 3 ∧ unaryCode 3 1 = 3 ∧ unaryCode 3 3 = 3 :=
  ⟨C16_table_good, bounded_iff_lt.mpr (by decide), bounded_iff_lt.mpr (by decide), by decide, by decide⟩

example : (classifyBinary pinnedTable 3 0 1 1 3).map (fun x => (x.kind, x.left, x.right, x.order)) =
    some ("implication", 0, some 1, 4) := by decide +kernel
example : (classifyBinary pinnedTable 3 0 1 3 1).map (fun x => (x.kind, x.left, x.right, x.order)) =
    some ("implication", 1, some 0, 4) := by decide +kernel

/-- the result is the documented entry of the pattern: kind, orientation and rank -/
theorem C16_kind_unique (hT : T.Good) (hl : Bounded n cl) (hr : Bounded n cr)
    (hcl : unaryCode n cl = 3) (hcr : unaryCode n cr = 3) :
    ∃ it, classifyBinary T n l r cl cr = some it ∧
      (binaryCode n cl cr = 9 → it = ⟨"equivalent", l, some r, 1⟩) ∧
      (binaryCode n cl cr = 6 → it = ⟨"complement", l, some r, 2⟩) ∧
      (binaryCode n cl cr = 14 → it = ⟨"incompatible", l, some r, 3⟩) ∧
      (binaryCode n cl cr = 13 → it = ⟨"implication", l, some r, 4⟩) ∧
      (binaryCode n cl cr = 11 → it = ⟨"implication", r, some l, 4⟩) ∧
      (binaryCode n cl cr = 7 → it = ⟨"subcontrary", l, some r, 6⟩) ∧
      (binaryCode n cl cr = 15 → it = ⟨"orthogonal", l, some r, 7⟩) := by
  refine ⟨_, C16_classify_total hT hl hr hcl hcr, ?_⟩
  unfold specBinary
  refine ⟨?_, ?_, ?_, ?_, ?_, ?_, ?_⟩ <;> intro h <;> rw [h] <;> rfl

/-- conversely the kind determines the pattern (13 / 11 share the kind `implication`) -/
theorem C16_kind_iff (hT : T.Good) (hl : Bounded n cl) (hr : Bounded n cr)
    (hcl : unaryCode n cl = 3) (hcr : unaryCode n cr = 3) {it : RelItem}
    (h : classifyBinary T n l r cl cr = some it) :
    (it.kind = "equivalent" ↔ binaryCode n cl cr = 9) ∧
    (it.kind = "complement" ↔ binaryCode n cl cr = 6) ∧
    (it.kind = "incompatible" ↔ binaryCode n cl cr = 14) ∧
    (it.kind = "implication" ↔ binaryCode n cl cr = 13 ∨ binaryCode n cl cr = 11) ∧
    (it.kind = "subcontrary" ↔ binaryCode n cl cr = 7) ∧
    (it.kind = "orthogonal" ↔ binaryCode n cl cr = 15) := by
  rw [C16_classify_total hT hl hr hcl hcr, Option.some.injEq] at h
  subst h
  rw [kind_specBinary]
  exact kindOfCode_eq_iff _ (binaryCode_reading hl hr hcl hcr).1

/-- the kind says what the documentation says about the two columns -/
theorem C16_semantics (hT : T.Good) (hl : Bounded n cl) (hr : Bounded n cr)
    (hcl : unaryCode n cl = 3) (hcr : unaryCode n cr = 3) {it : RelItem}
    (h : classifyBinary T n l r cl cr = some it) :
    (it.kind = "equivalent" ↔ cl = cr) ∧
    (it.kind = "complement" ↔ cl &&& cr = 0 ∧ cl ||| cr = full n) ∧
    (it.kind = "incompatible" ↔ cl &&& cr = 0 ∧ cl ||| cr ≠ full n) ∧
    (it.kind = "implication" ↔ (cl ⊆ᵇ cr ∨ cr ⊆ᵇ cl) ∧ cl ≠ cr) ∧
    (it.kind = "subcontrary" ↔ cl &&& cr ≠ 0 ∧ cl ||| cr = full n ∧ ¬ cl ⊆ᵇ cr ∧ ¬ cr ⊆ᵇ cl) ∧
    (it.kind = "orthogonal" ↔ cl &&& cr ≠ 0 ∧ ¬ cl ⊆ᵇ cr ∧ ¬ cr ⊆ᵇ cl ∧ cl ||| cr ≠ full n) := by
  obtain ⟨k9, k6, k14, k13, k7, k15⟩ := C16_kind_iff hT hl hr hcl hcr h
  obtain ⟨_, c9, c6, c14, c13, c11, c7, c15⟩ := binaryCode_reading hl hr hcl hcr
  refine ⟨k9.trans (c9.trans sub_antisymm_iff.symm), k6.trans c6, k14.trans c14, k13.trans ?_, k7.trans c7,
    k15.trans c15⟩
  rw [c13, c11, Ne, sub_antisymm_iff]
  exact ⟨fun h => h.elim (fun h => ⟨Or.inl h.1, fun e => h.2 e.2⟩) (fun h => ⟨Or.inr h.2, fun e => h.1 e.1⟩),
    fun ⟨h, e⟩ => h.elim (fun a => Or.inl ⟨a, fun b => e ⟨a, b⟩⟩) (fun b => Or.inr ⟨fun a => e ⟨a, b⟩, b⟩)⟩

/-- orthogonal = all four combinations occur among the objects -/
theorem C16_orthogonal_iff (hT : T.Good) (hl : Bounded n cl) (hr : Bounded n cr)
    (hcl : unaryCode n cl = 3) (hcr : unaryCode n cr = 3) {it : RelItem}
    (h : classifyBinary T n l r cl cr = some it) :
    it.kind = "orthogonal" ↔
      (∃ i, i ∈ᵇ cl ∧ i ∈ᵇ cr) ∧ (∃ i, i ∈ᵇ cl ∧ ¬ i ∈ᵇ cr) ∧ (∃ i, i ∈ᵇ cr ∧ ¬ i ∈ᵇ cl) ∧
      (∃ i, i < n ∧ ¬ i ∈ᵇ cl ∧ ¬ i ∈ᵇ cr) := by
  rw [(C16_semantics hT hl hr hcl hcr h).2.2.2.2.2, and_ne_zero_iff, not_sub_iff, not_sub_iff, or_ne_full_iff hl hr]

/-- an implication entry always points from the narrower to the wider column -/
theorem C16_orientation (hT : T.Good) (hl : Bounded n cl) (hr : Bounded n cr)
    (hcl : unaryCode n cl = 3) (hcr : unaryCode n cr = 3) {it : RelItem}
    (h : classifyBinary T n l r cl cr = some it) (hk : it.kind = "implication") :
    (it.left = l ∧ it.right = some r ∧ cl ⊆ᵇ cr ∧ cl ≠ cr) ∨
    (it.left = r ∧ it.right = some l ∧ cr ⊆ᵇ cl ∧ cl ≠ cr) := by
  obtain ⟨it', h', _, _, _, u13, u11, _⟩ := C16_kind_unique (l := l) (r := r) hT hl hr hcl hcr
  obtain rfl : it' = it := Option.some.inj (h'.symm.trans h)
  obtain ⟨_, _, _, _, c13, c11, _⟩ := binaryCode_reading hl hr hcl hcr
  have hne := ((C16_semantics hT hl hr hcl hcr h).2.2.2.1.mp hk).2
  rcases (C16_kind_iff hT hl hr hcl hcr h).2.2.2.1.mp hk with hc | hc
  · rw [u13 hc]; exact .inl ⟨rfl, rfl, (c13.mp hc).1, hne⟩
  · rw [u11 hc]; exact .inr ⟨rfl, rfl, (c11.mp hc).2, hne⟩

end pair

/-- `combos2` (= `itertools.combinations(·, 2)`) yields exactly the two-element subsequences, each
once when the list has no duplicates, `len·(len-1)/2` in total -/
theorem C16_combos2_spec (l : List Nat) :
    (∀ a b, (a, b) ∈ combos2 l ↔ List.Sublist [a, b] l) ∧ (l.Nodup → (combos2 l).Nodup) ∧
    (combos2 l).length = l.length * (l.length - 1) / 2 :=
  ⟨fun _ _ => mem_combos2_iff_sublist, combos2_nodup, combos2_length l⟩

/-- over the (ascending) contingent properties of a context: each pair `i < j` exactly once -/
theorem C16_combos2_contingent (K : Ctx) :
    (combos2 (contingentProps K)).Nodup ∧
    ∀ i j, (i, j) ∈ combos2 (contingentProps K) ↔
      i < j ∧ j < K.m ∧ unaryCode K.n (K.cols[i]!) = 3 ∧ unaryCode K.n (K.cols[j]!) = 3 :=
  ⟨combos2_nodup (contingentProps_nodup K), fun _ _ => mem_combos2_contingent⟩

example : combos2 [0, 2, 3] = [(0, 2), (0, 3), (2, 3)] := by decide

section entries
variable {T : JTable} {K : Ctx}

/-- without `include_unary` the result is, up to the (stable) sort, the list of classifications of
the pairs `i < j` of contingent properties, in `combinations` order -/
theorem C16_entries_eq (hT : T.Good) (hK : K.WF) (hn : 0 < K.n) :
    relations T K false = sortRel ((combos2 (contingentProps K)).map fun q =>
      specBinary K.n q.1 q.2 (K.cols[q.1]!) (K.cols[q.2]!)) := by
  rw [relations_eq hT hK hn]; rfl

/-- every entry is the classification of a pair `i < j` of contingent properties and vice versa -/
theorem C16_entries_mem (hT : T.Good) (hK : K.WF) (hn : 0 < K.n) (x : RelItem) :
    x ∈ relations T K false ↔ ∃ i j, i < j ∧ j < K.m ∧ unaryCode K.n (K.cols[i]!) = 3 ∧
      unaryCode K.n (K.cols[j]!) = 3 ∧ classifyBinary T K.n i j (K.cols[i]!) (K.cols[j]!) = some x := by
  rw [C16_entries_eq hT hK hn, sortRel_perm.mem_iff, List.mem_map]
  constructor
  · rintro ⟨⟨i, j⟩, hq, rfl⟩
    obtain ⟨hij, hj, hi, hj'⟩ := mem_combos2_contingent.mp hq
    exact ⟨i, j, hij, hj, hi, hj', C16_classify_total hT (cols_bounded hK i) (cols_bounded hK j) hi hj'⟩
  · rintro ⟨i, j, hij, hj, hi, hj', hx⟩
    rw [C16_classify_total hT (cols_bounded hK i) (cols_bounded hK j) hi hj', Option.some.injEq] at hx
    exact ⟨(i, j), mem_combos2_contingent.mpr ⟨hij, hj, hi, hj'⟩, hx⟩

/-- exactly one entry per unordered pair of contingent properties, none for any other pair
(`RelItem.pair x = some (min left right, max left right)`) -/
theorem C16_entries (hT : T.Good) (hK : K.WF) (hn : 0 < K.n) (i j : Nat) :
    ((relations T K false).map RelItem.pair).count (some (i, j)) =
      if i < j ∧ j < K.m ∧ unaryCode K.n (K.cols[i]!) = 3 ∧ unaryCode K.n (K.cols[j]!) = 3 then 1 else 0 := by
  have hp : ((relations T K false).map RelItem.pair).Perm ((combos2 (contingentProps K)).map some) := by
    rw [C16_entries_eq hT hK hn, ← map_pair_binaryItems]; exact sortRel_perm.map _
  rw [hp.count_eq, ((combos2_nodup (contingentProps_nodup K)).map (Option.some_injective _)).count]
  simp only [List.mem_map_of_injective (Option.some_injective _), mem_combos2_contingent]

/-- the number of entries: one per pair -/
theorem C16_entries_length (hT : T.Good) (hK : K.WF) (hn : 0 < K.n) :
    (relations T K false).length =
      (contingentProps K).length * ((contingentProps K).length - 1) / 2 := by
  rw [C16_entries_eq hT hK hn, sortRel_perm.length_eq, List.length_map, combos2_length]

/-- with fewer than two contingent properties there is nothing to list -/
theorem C16_entries_none (hT : T.Good) (hK : K.WF) (hn : 0 < K.n) (h : (contingentProps K).length ≤ 1) :
    relations T K false = [] := by
  apply List.eq_nil_of_length_eq_zero
  rw [C16_entries_length hT hK hn]
  rcases Nat.le_one_iff_eq_zero_or_eq_one.mp h with h | h <;> rw [h]

example : relations pinnedTable (mkCtx 2 2 #[0b11, 0b01]) false = [] := by decide +kernel

/-- with `include_unary`: additionally exactly the unary items of all properties -/
theorem C16_entries_unary_perm (hT : T.Good) (hK : K.WF) (hn : 0 < K.n) :
    (relations T K true).Perm
      (((List.range K.m).map fun p => specUnary K.n p (K.cols[p]!)) ++ relations T K false) := by
  rw [relations_eq hT hK hn, relations_eq hT hK hn]
  simp only [if_true, Bool.false_eq_true, if_false, List.nil_append]
  exact sortRel_perm.trans (List.Perm.append_left _ sortRel_perm.symm)

/-- the unary item of a property: exactly one of tautology / contradiction / contingency, decided
by the column being full / empty / neither -/
theorem C16_unary_kind {n : Nat} (hn : 0 < n) (p col : Nat) :
    (specUnary n p col).left = p ∧ (specUnary n p col).right = none ∧
    ((specUnary n p col).kind = "tautology" ↔ col = full n) ∧
    ((specUnary n p col).kind = "contradiction" ↔ col = 0) ∧
    ((specUnary n p col).kind = "contingency" ↔ col ≠ 0 ∧ col ≠ full n) ∧
    ((specUnary n p col).kind = "tautology" ∨ (specUnary n p col).kind = "contradiction" ∨
      (specUnary n p col).kind = "contingency") := by
  obtain ⟨hc, h1, h2, h3⟩ := unaryCode_spec hn col
  rw [← h1, ← h2, ← h3]
  exact ⟨rfl, rfl, unaryKind_eq_iff _ hc⟩

/-- exactly one unary entry per property `p < K.m` -/
theorem C16_entries_unary (hT : T.Good) (hK : K.WF) (hn : 0 < K.n) (p : Nat) :
    (relations T K true).countP (fun x => x.right.isNone && x.left == p) = if p < K.m then 1 else 0 := by
  rw [relations_eq hT hK hn, sortRel_perm.countP_eq, if_pos rfl, List.countP_append, unaryItems, List.countP_map,
    ← List.count_range]
  have h0 : (binaryItems K).countP (fun x => x.right.isNone && x.left == p) = 0 :=
    List.countP_eq_zero.mpr fun x hx => by rw [isNone_right_binaryItems hx]; exact Bool.false_ne_true
  rw [h0, Nat.add_zero]
  -- on `specUnary n q _` the test `right.isNone && left == p` evaluates to `q == p`: this is `count p`
  rfl

/-- the binary entries are the same with and without `include_unary` -/
theorem C16_entries_binary_same (hT : T.Good) (hK : K.WF) (hn : 0 < K.n) (i j : Nat) :
    ((relations T K true).map RelItem.pair).count (some (i, j)) =
      ((relations T K false).map RelItem.pair).count (some (i, j)) := by
  rw [((C16_entries_unary_perm hT hK hn).map _).count_eq, List.map_append, List.count_append]
  rw [← unaryItems, map_pair_unaryItems, List.count_eq_zero.mpr (by simp), Nat.zero_add]

end entries

/-- `sortRel` permutes, sorts by rank and keeps entries of equal rank in their original order -/
theorem C16_sorted_stable (l : List RelItem) :
    (sortRel l).Perm l ∧ (sortRel l).Pairwise (fun a b => a.order ≤ b.order) ∧
    ∀ k : Int, (sortRel l).filter (fun a => decide (a.order = k)) = l.filter (fun a => decide (a.order = k)) :=
  ⟨sortRel_perm, sortRel_sorted l, fun k => filter_sortRel k l⟩

example : (sortRel [⟨"b", 0, some 1, 4⟩, ⟨"a", 5, none, -1⟩, ⟨"c", 0, some 2, 4⟩, ⟨"d", 1, some 2, 1⟩]).map (·.kind) =
    ["a", "d", "b", "c"] := by decide +kernel

/-- the result of `relations` is sorted by rank -/
theorem C16_relations_sorted (T : JTable) (K : Ctx) (iu : Bool) :
    (relations T K iu).Pairwise (fun a b => a.order ≤ b.order) := by
  unfold relations
  exact sortRel_sorted _

/-- … and the entries of one rank are in `combinations` order of their pairs (stability): e.g. all
entries of rank `k` are the rank-`k` classifications in enumeration order -/
theorem C16_relations_stable {T : JTable} {K : Ctx} (hT : T.Good) (hK : K.WF) (hn : 0 < K.n) (k : Int) :
    (relations T K false).filter (fun a => decide (a.order = k)) =
      ((combos2 (contingentProps K)).map fun q =>
        specBinary K.n q.1 q.2 (K.cols[q.1]!) (K.cols[q.2]!)).filter (fun a => decide (a.order = k)) := by
  rw [C16_entries_eq hT hK hn, filter_sortRel]

/-- a concrete context: 3 objects, 4 properties with columns 0b011, 0b110, 0b111 (universal), 0b100 -/
example : (relations pinnedTable (mkCtx 3 4 #[0b0101, 0b0111, 0b1110]) true).map
      (fun x => (x.kind, x.left, x.right)) =
    [("tautology", 2, none), ("contingency", 0, none), ("contingency", 1, none), ("contingency", 3, none),
     ("complement", 0, some 3), ("implication", 3, some 1), ("subcontrary", 0, some 1)] := by decide +kernel

example : (mkCtx 3 4 #[0b0101, 0b0111, 0b1110]).WF ∧ 0 < (mkCtx 3 4 #[0b0101, 0b0111, 0b1110]).n :=
  ⟨mkCtx_WF rfl (by decide), by decide⟩

/-- with `include_unary` the entries of one rank are: the unary entries of that rank in property
order, followed by the binary entries of that rank in `combinations` order -/
theorem C16_unary_stable {T : JTable} {K : Ctx} (hT : T.Good) (hK : K.WF) (hn : 0 < K.n) (k : Int) :
    (relations T K true).filter (fun a => decide (a.order = k)) =
      ((List.range K.m).map fun p => specUnary K.n p (K.cols[p]!)).filter (fun a => decide (a.order = k)) ++
      ((combos2 (contingentProps K)).map fun q =>
        specBinary K.n q.1 q.2 (K.cols[q.1]!) (K.cols[q.2]!)).filter (fun a => decide (a.order = k)) := by
  rw [relations_eq hT hK hn, filter_sortRel, if_pos rfl, List.filter_append]
  rfl

/-- in particular the properties reported with one unary kind (rank `k`: -2 contradiction,
-1 tautology, 0 contingency) are listed in ascending property order -/
theorem C16_unary_stable_props {T : JTable} {K : Ctx} (hT : T.Good) (hK : K.WF) (hn : 0 < K.n) (k : Int) :
    ((relations T K true).filter (fun a => a.right.isNone && decide (a.order = k))).map (·.left) =
      (List.range K.m).filter (fun p => decide (unaryRank (unaryCode K.n (K.cols[p]!)) = k)) := by
  rw [← List.filter_filter, C16_unary_stable hT hK hn, List.filter_append, ← unaryItems, ← binaryItems]
  have hU : ∀ a ∈ (unaryItems K).filter (fun a => decide (a.order = k)), a.right.isNone = true := fun a ha =>
    Option.isNone_iff_eq_none.mpr (right_unaryItems (List.mem_filter.mp ha).1)
  have hB : ∀ a ∈ (binaryItems K).filter (fun a => decide (a.order = k)), ¬ a.right.isNone = true := fun a ha =>
    isNone_right_binaryItems (List.mem_filter.mp ha).1 ▸ Bool.false_ne_true
  rw [List.filter_eq_nil_iff.mpr hB, List.append_nil, List.filter_eq_self.mpr hU, unaryItems, List.filter_map,
    List.map_map]
  exact List.map_id' _

example : ((relations pinnedTable (mkCtx 3 4 #[0b0101, 0b0111, 0b1110]) true).filter
    (fun a => a.right.isNone && decide (a.order = 0))).map (·.left) = [0, 1, 3] := by decide +kernel

/-! ### first match = last match (`find?` of the model vs. the Python dict) -/

theorem C16_table_nodup : pinnedTable.NoDupPatterns ∧ pinnedTable.NoDupNames := by decide +kernel

/-- For a well-formed table without duplicate patterns: each of the seven binary and three unary
patterns is the pattern of exactly one entry, and looking a pattern up from the front (`find?`, the
model) or from the back (the entry defined last wins: Python's `__map[pattern] = cls`) gives the
same entry — for every pattern. -/
theorem C16_good_patterns_once {T : JTable} (hT : T.Good) (hN : T.NoDupPatterns) :
    (∀ c ∈ [15, 7, 13, 11, 9, 14, 6], (T.binary.filter (·.pattern == c)).length = 1) ∧
    (∀ c ∈ [1, 2, 3], (T.unary.filter (·.pattern == c)).length = 1) ∧
    (∀ c, T.binary.reverse.find? (·.pattern == c) = T.binary.find? (·.pattern == c)) ∧
    (∀ c, T.unary.reverse.find? (·.pattern == c) = T.unary.find? (·.pattern == c)) :=
  ⟨fun c hc => length_filter_key_eq_one JEntry.pattern hN.1 (hT.isSome_find?.1 c hc),
    fun c hc => length_filter_key_eq_one JEntry.pattern hN.2 (hT.isSome_find?.2 c hc),
    fun c => find?_reverse_of_nodup JEntry.pattern c _ hN.1, fun c => find?_reverse_of_nodup JEntry.pattern c _ hN.2⟩

/-- in the pinned table every pattern two contingent columns can produce occurs exactly once, and the
three unary patterns occur exactly once -/
theorem C16_table_patterns_once :
    (∀ c ∈ [15, 7, 13, 11, 9, 14, 6], (pinnedTable.binary.filter (·.pattern == c)).length = 1) ∧
    (∀ c ∈ [1, 2, 3], (pinnedTable.unary.filter (·.pattern == c)).length = 1) :=
  ⟨(C16_good_patterns_once C16_table_good C16_table_nodup.1).1, (C16_good_patterns_once C16_table_good C16_table_nodup.1).2.1⟩

/-- likewise the lookups by class name (`Implication`, `Replication`, `Contingency`) do not depend on
the direction of the search when no name is used twice -/
theorem C16_good_names_once {T : JTable} (hN : T.NoDupNames) (s : String) :
    T.binary.reverse.find? (·.name == s) = T.binary.find? (·.name == s) ∧
    T.unary.reverse.find? (·.name == s) = T.unary.find? (·.name == s) := by
  unfold JTable.NoDupNames at hN
  rw [List.map_append, List.nodup_append] at hN
  exact ⟨find?_reverse_of_nodup JEntry.name s _ hN.2.1, find?_reverse_of_nodup JEntry.name s _ hN.1⟩

example : pinnedTable.Good ∧ pinnedTable.NoDupPatterns := ⟨C16_table_good, C16_table_nodup.1⟩
/-- a table with a repeated pattern is rejected by the predicate -/
example : ¬ (JTable.mk [] [⟨"A", "a", 1, 9⟩, ⟨"B", "b", 2, 9⟩]).NoDupPatterns := by decide

section objects
variable {T : JTable} {n l r cl cr : Nat}

/-- what each kind says about the objects `i < n` (`i ∈ᵇ cl`: object `i` has the left property):
* equivalent: every object has both or neither;
* complement: every object has exactly one;
* incompatible: no object has both, and some object has neither;
* implication (either direction): every object with the one has the other, and not conversely;
* subcontrary: every object has at least one, some object has both, neither column contains the other;
* orthogonal: all four combinations occur. -/
theorem C16_kind_objects (hT : T.Good) (hl : Bounded n cl) (hr : Bounded n cr)
    (hcl : unaryCode n cl = 3) (hcr : unaryCode n cr = 3) {it : RelItem}
    (h : classifyBinary T n l r cl cr = some it) :
    (it.kind = "equivalent" ↔ ∀ i, i < n → (i ∈ᵇ cl ↔ i ∈ᵇ cr)) ∧
    (it.kind = "complement" ↔ ∀ i, i < n → (i ∈ᵇ cl ↔ ¬ i ∈ᵇ cr)) ∧
    (it.kind = "incompatible" ↔
      (∀ i, ¬ (i ∈ᵇ cl ∧ i ∈ᵇ cr)) ∧ ∃ i, i < n ∧ ¬ i ∈ᵇ cl ∧ ¬ i ∈ᵇ cr) ∧
    (it.kind = "implication" ↔
      ((∀ i, i ∈ᵇ cl → i ∈ᵇ cr) ∧ ∃ i, i ∈ᵇ cr ∧ ¬ i ∈ᵇ cl) ∨
      ((∀ i, i ∈ᵇ cr → i ∈ᵇ cl) ∧ ∃ i, i ∈ᵇ cl ∧ ¬ i ∈ᵇ cr)) ∧
    (it.kind = "subcontrary" ↔
      (∀ i, i < n → i ∈ᵇ cl ∨ i ∈ᵇ cr) ∧ (∃ i, i ∈ᵇ cl ∧ i ∈ᵇ cr) ∧
      (∃ i, i ∈ᵇ cl ∧ ¬ i ∈ᵇ cr) ∧ (∃ i, i ∈ᵇ cr ∧ ¬ i ∈ᵇ cl)) ∧
    (it.kind = "orthogonal" ↔
      (∃ i, i ∈ᵇ cl ∧ i ∈ᵇ cr) ∧ (∃ i, i ∈ᵇ cl ∧ ¬ i ∈ᵇ cr) ∧ (∃ i, i ∈ᵇ cr ∧ ¬ i ∈ᵇ cl) ∧
      (∃ i, i < n ∧ ¬ i ∈ᵇ cl ∧ ¬ i ∈ᵇ cr)) := by
  obtain ⟨h1, h2, h3, _, h5, _⟩ := C16_semantics hT hl hr hcl hcr h
  obtain ⟨_, _, _, _, c13, c11, _⟩ := binaryCode_reading hl hr hcl hcr
  refine ⟨h1.trans (eq_iff_forall_lt hl hr), h2.trans ?_, h3.trans ?_,
    (C16_kind_iff hT hl hr hcl hcr h).2.2.2.1.trans ?_, h5.trans ?_, C16_orthogonal_iff hT hl hr hcl hcr h⟩
  · rw [and_eq_zero_iff_forall, or_eq_full_iff hl hr]
    exact ⟨fun ⟨a, b⟩ i hi => ⟨fun h1 h2 => a i ⟨h1, h2⟩, (b i hi).resolve_right⟩,
      fun a => ⟨fun i hi => (a i (hl i hi.1)).mp hi.1 hi.2, fun i hi => or_iff_not_imp_right.mpr (a i hi).mpr⟩⟩
  · rw [and_eq_zero_iff_forall, or_ne_full_iff hl hr]
  · rw [c13, c11, not_sub_iff, not_sub_iff, and_comm (b := cr ⊆ᵇ cl)]; rfl
  · rw [and_ne_zero_iff, or_eq_full_iff hl hr, not_sub_iff, not_sub_iff]; exact and_left_comm

end objects

/-- … and for the entries of `relations` themselves, with the orientation the entry reports:
`has i p` = object `i` has property `p`. An `implication` entry `left → right` says: every object
with `left` has `right`, and some object has `right` without `left`. -/
theorem C16_kind_objects_relations {T : JTable} {K : Ctx} (hT : T.Good) (hK : K.WF) (hn : 0 < K.n)
    (iu : Bool) (x : RelItem) (hx : x ∈ relations T K iu) (q : Nat) (hq : x.right = some q) :
    x.left < K.m ∧ q < K.m ∧ x.left ≠ q ∧
    (x.kind = "equivalent" ↔ ∀ i, i < K.n → (i ∈ᵇ K.cols[x.left]! ↔ i ∈ᵇ K.cols[q]!)) ∧
    (x.kind = "complement" ↔ ∀ i, i < K.n → (i ∈ᵇ K.cols[x.left]! ↔ ¬ i ∈ᵇ K.cols[q]!)) ∧
    (x.kind = "incompatible" ↔
      (∀ i, ¬ (i ∈ᵇ K.cols[x.left]! ∧ i ∈ᵇ K.cols[q]!)) ∧
      ∃ i, i < K.n ∧ ¬ i ∈ᵇ K.cols[x.left]! ∧ ¬ i ∈ᵇ K.cols[q]!) ∧
    (x.kind = "implication" ↔
      (∀ i, i ∈ᵇ K.cols[x.left]! → i ∈ᵇ K.cols[q]!) ∧ ∃ i, i ∈ᵇ K.cols[q]! ∧ ¬ i ∈ᵇ K.cols[x.left]!) ∧
    (x.kind = "subcontrary" ↔
      (∀ i, i < K.n → i ∈ᵇ K.cols[x.left]! ∨ i ∈ᵇ K.cols[q]!) ∧ (∃ i, i ∈ᵇ K.cols[x.left]! ∧ i ∈ᵇ K.cols[q]!) ∧
      (∃ i, i ∈ᵇ K.cols[x.left]! ∧ ¬ i ∈ᵇ K.cols[q]!) ∧ (∃ i, i ∈ᵇ K.cols[q]! ∧ ¬ i ∈ᵇ K.cols[x.left]!)) ∧
    (x.kind = "orthogonal" ↔
      (∃ i, i ∈ᵇ K.cols[x.left]! ∧ i ∈ᵇ K.cols[q]!) ∧ (∃ i, i ∈ᵇ K.cols[x.left]! ∧ ¬ i ∈ᵇ K.cols[q]!) ∧
      (∃ i, i ∈ᵇ K.cols[q]! ∧ ¬ i ∈ᵇ K.cols[x.left]!) ∧
      (∃ i, i < K.n ∧ ¬ i ∈ᵇ K.cols[x.left]! ∧ ¬ i ∈ᵇ K.cols[q]!)) := by
  have hm : x ∈ binaryItems K := ((mem_relations hT hK hn).mp hx).resolve_left fun h =>
    Option.some_ne_none q (hq.symm.trans (right_unaryItems h.2))
  obtain ⟨a, b, hab, ha, hb, hca, hcb, h11, rfl⟩ := binaryItems_oriented hm
  obtain rfl : b = q := Option.some.inj hq
  have hba := cols_bounded hK a
  have hbb := cols_bounded hK b
  obtain ⟨k1, k2, k3, k4, k5, k6⟩ := C16_kind_objects (l := a) (r := b) hT hba hbb hca hcb
    (by rw [C16_classify_total hT hba hbb hca hcb, specBinary, if_neg h11])
  refine ⟨ha, hb, hab, k1, k2, k3, k4.trans (or_iff_left fun h => h11 ?_), k5, k6⟩
  -- the pattern of the entry's own columns is not 11, so it is not the converse implication
  obtain ⟨s, i, hi, hi'⟩ := h
  exact (binaryCode_reading hba hbb hca hcb).2.2.2.2.2.1.mpr ⟨fun hs => hi' (hs i hi), s⟩

section
variable {T : JTable} {K : Ctx}

/-- implication entries of `relations` point from the narrower to the wider property -/
theorem C16_orientation_relations (hT : T.Good) (hK : K.WF) (hn : 0 < K.n) (iu : Bool) (x : RelItem)
    (hx : x ∈ relations T K iu) (hk : x.kind = "implication") :
    ∃ r, x.right = some r ∧ x.left < K.m ∧ r < K.m ∧
      K.cols[x.left]! ⊆ᵇ K.cols[r]! ∧ K.cols[x.left]! ≠ K.cols[r]! := by
  obtain ⟨p, hp⟩ : ∃ p, x.right = some p := by
    rcases (mem_relations hT hK hn).mp hx with ⟨_, h⟩ | h
    · obtain ⟨p, _, rfl⟩ := List.mem_map.mp h
      exact absurd hk (unaryKind_ne_implication _)
    · exact Option.isSome_iff_exists.mp (right_binaryItems h)
  obtain ⟨h1, h2, _, _, _, _, k, _⟩ := C16_kind_objects_relations hT hK hn iu x hx p hp
  obtain ⟨hs, i, hi, hi'⟩ := k.mp hk
  exact ⟨p, hp, h1, h2, hs, fun e => hi' (e ▸ hi)⟩

end

example : (relations pinnedTable (mkCtx 3 4 #[0b0101, 0b0111, 0b1110]) false).map
    (fun x => (x.kind, x.left, x.right)) =
    [("complement", 0, some 3), ("implication", 3, some 1), ("subcontrary", 0, some 1)] := by decide +kernel

/-! ### printing: `Relations.tostring`, `Relations.__str__` (model: `relToString`) -/

section render
variable (names : Nat → Str)

/-- nothing to list: the text is empty (the width is `max(..., default=0)`) -/
theorem C16_render_empty (b : Bool) : relToString names [] b = [] := by cases b <;> rfl

/-- before the repair the width was `max(...)` of the left labels, which fails exactly when there is
nothing to list; the repaired computation is total and agrees with it otherwise -/
theorem C16_render_strict (items : List RelItem) :
    (relWidthStrict names items = .error .valueError ↔ items = []) ∧
    (items ≠ [] → relWidthStrict names items = .ok (relWidth names items)) ∧
    relWidth names [] = 0 := by
  cases items with
  | nil => exact ⟨⟨fun _ => rfl, fun _ => rfl⟩, fun h => absurd rfl h, rfl⟩
  | cons y ys => exact ⟨⟨nofun, nofun⟩, fun _ => rfl, rfl⟩

/-- only orthogonal entries, and those excluded (`__str__`): the text is empty -/
theorem C16_render_only_orthogonal {items : List RelItem} (h : ∀ r ∈ items, r.kind = "orthogonal") :
    relToString names items true = [] ∧ relStr names items = [] := by
  have : relKept true items = [] :=
    List.eq_nil_iff_forall_not_mem.mpr fun r hr => (mem_relKept.mp hr).2 rfl (h r (mem_relKept.mp hr).1)
  refine ⟨?_, ?_⟩ <;> simp only [relStr, relToString, this] <;> rfl

example : relStr (fun _ => ['a']) [⟨"orthogonal", 0, some 1, 7⟩] = [] := by decide +kernel

/-- the text: one line per kept entry (all entries, or all but the orthogonal ones), in list order,
joined by line breaks; a line is the left label padded to the common width, a blank, the kind padded
to 12, a blank, and the right label (nothing for a unary entry — such a line ends in the blank) -/
theorem C16_render_lines (items : List RelItem) (b : Bool) :
    relToString names items b =
      joinWith ['\n'] ((items.filter fun r => !(b && r.kind == "orthogonal")).map fun r =>
        ljust (relWidth names items) (names r.left) ++ [' '] ++ ljust 12 r.kind.toList ++ [' '] ++
          (match r.right with | some p => names p | none => [])) := by
  have hk : relKept b items = items.filter fun r => !(b && r.kind == "orthogonal") := by
    cases b <;> simp [relKept, bne]
  unfold relToString
  rw [hk]
  rfl

/-- `__str__` excludes the orthogonal entries -/
theorem C16_render_str (items : List RelItem) : relStr names items = relToString names items true := rfl

/-- when no label contains a line break, splitting the text at line breaks gives back exactly one
line per kept entry (and the text is empty when no entry is kept) -/
theorem C16_render_split (items : List RelItem) (b : Bool)
    (hl : ∀ r ∈ items, '\n' ∉ names r.left) (hk : ∀ r ∈ items, '\n' ∉ r.kind.toList)
    (hr : ∀ r ∈ items, ∀ p, r.right = some p → '\n' ∉ names p) :
    (relKept b items = [] → relToString names items b = []) ∧
    (relKept b items ≠ [] → splitChar '\n' (relToString names items b) =
      (relKept b items).map (relLine names (relWidth names items))) := by
  constructor
  · intro h; unfold relToString; rw [h]; rfl
  · intro h
    unfold relToString
    apply splitChar_joinWith
    · simpa using h
    · intro line hline
      obtain ⟨r, hr', rfl⟩ := List.mem_map.mp hline
      have hri := (mem_relKept.mp hr').1
      exact not_mem_relLine (by decide) (hl r hri) (hk r hri) (hr r hri)

/-- the common width is the greatest length of a left label over ALL entries — the orthogonal ones
included, also when they are not printed —, so every left column has exactly that width and the kind
column starts at the same offset in every line -/
theorem C16_render_width (items : List RelItem) :
    (∀ r ∈ items, (names r.left).length ≤ relWidth names items ∧
      (ljust (relWidth names items) (names r.left)).length = relWidth names items) ∧
    ((items = [] ∧ relWidth names items = 0) ∨
      ∃ r ∈ items, relWidth names items = (names r.left).length) :=
  ⟨fun _ hr => ⟨le_relWidth names hr, length_ljust (le_relWidth names hr)⟩, relWidth_attained names items⟩

example : relWidth (fun p => List.replicate (p + 1) 'x') [⟨"orthogonal", 4, some 1, 7⟩, ⟨"equivalent", 0, some 1, 1⟩] = 5 := by
  decide

/-- `%-12s` pads but never truncates (`contradiction` has 13 characters) -/
example : ljust 12 "contradiction".toList = "contradiction".toList ∧ ljust 12 "tautology".toList = "tautology   ".toList := by
  rw [String.toList_ofList, String.toList_ofList, String.toList_ofList]; exact ⟨rfl, rfl⟩

/-- the doctest of `junctors.py` -/
example : relToString (fun p => ["Never", "Always", "Possibly", "Maybe"].toArray[p]!.toList)
    [⟨"contradiction", 0, none, -2⟩, ⟨"tautology", 1, none, -1⟩, ⟨"contingency", 2, none, 0⟩,
     ⟨"contingency", 3, none, 0⟩, ⟨"equivalent", 2, some 3, 1⟩] true =
    ("Never    contradiction \nAlways   tautology    \nPossibly contingency  \nMaybe    contingency  \n" ++
     "Possibly equivalent   Maybe").toList := by
  rw [String.toList_append, String.toList_ofList, String.toList_ofList]
  decide +kernel

end render

/-- the kinds of the entries of `relations` contain no line break -/
theorem C16_kinds_no_newline {T : JTable} {K : Ctx} (hT : T.Good) (hK : K.WF) (hn : 0 < K.n) (iu : Bool) :
    ∀ x ∈ relations T K iu, '\n' ∉ x.kind.toList := by
  intro x hx
  rcases (mem_relations hT hK hn).mp hx with ⟨_, h⟩ | h
  · obtain ⟨p, _, rfl⟩ := List.mem_map.mp h
    exact nl_not_mem_unaryKind _
  · obtain ⟨q, _, rfl⟩ := List.mem_map.mp h
    exact kind_specBinary .. ▸ nl_not_mem_kindOfCode _

/-- printing `relations()` is defined for every table, context, naming and both flags (the model is a
total function), and … -/
theorem C16_render_total (T : JTable) (K : Ctx) (names : Nat → Str) (iu b : Bool) :
    ∃ s : Str, relationsToString T K names iu b = s := ⟨_, rfl⟩

/-- … a context with fewer than two contingent properties — nothing to list — prints as the empty
text (where `max()` of the empty sequence used to raise) -/
theorem C16_render_nothing {T : JTable} {K : Ctx} (hT : T.Good) (hK : K.WF) (hn : 0 < K.n)
    (h : (contingentProps K).length ≤ 1) (names : Nat → Str) (b : Bool) :
    relationsToString T K names false b = [] ∧
    relWidthStrict names (relations T K false) = .error .valueError := by
  unfold relationsToString
  rw [C16_entries_none hT hK hn h]
  exact ⟨C16_render_empty names b, rfl⟩

example : (contingentProps (mkCtx 2 2 #[0b11, 0b01])).length ≤ 1 := by decide

/-- for newline-free property labels the printed text of `relations()` splits into exactly one line
per kept entry, in the (sorted, stable) order of the list -/
theorem C16_render_relations {T : JTable} {K : Ctx} (hT : T.Good) (hK : K.WF) (hn : 0 < K.n)
    (names : Nat → Str) (hnames : ∀ p, '\n' ∉ names p) (iu b : Bool)
    (hne : relKept b (relations T K iu) ≠ []) :
    splitChar '\n' (relationsToString T K names iu b) =
      (relKept b (relations T K iu)).map (relLine names (relWidth names (relations T K iu))) :=
  (C16_render_split names _ b (fun _ _ => hnames _) (C16_kinds_no_newline hT hK hn iu)
    (fun _ _ _ _ => hnames _)).2 hne

example : relationsToString pinnedTable (mkCtx 3 4 #[0b0101, 0b0111, 0b1110])
    (fun p => ["a", "bb", "ccc", "dddd"].toArray[p]!.toList) false true =
    "a    complement   dddd\ndddd implication  bb\na    subcontrary  bb".toList := by
  rw [String.toList_ofList]
  decide +kernel

end FCA

#print axioms FCA.C16_table_good
#print axioms FCA.C16_code_total
#print axioms FCA.C16_classify_total
#print axioms FCA.C16_kind_unique
#print axioms FCA.C16_kind_iff
#print axioms FCA.C16_semantics
#print axioms FCA.C16_orthogonal_iff
#print axioms FCA.C16_orientation
#print axioms FCA.C16_orientation_relations
#print axioms FCA.C16_combos2_spec
#print axioms FCA.C16_entries_mem
#print axioms FCA.C16_entries
#print axioms FCA.C16_entries_unary
#print axioms FCA.C16_entries_none
#print axioms FCA.C16_entries_length
#print axioms FCA.C16_entries_unary_perm
#print axioms FCA.C16_sorted_stable
#print axioms FCA.C16_relations_stable
#print axioms FCA.C16_unary_stable
#print axioms FCA.C16_unary_stable_props
#print axioms FCA.C16_good_patterns_once
#print axioms FCA.C16_good_names_once
#print axioms FCA.C16_kind_objects
#print axioms FCA.C16_kind_objects_relations
#print axioms FCA.C16_render_empty
#print axioms FCA.C16_render_strict
#print axioms FCA.C16_render_only_orthogonal
#print axioms FCA.C16_render_lines
#print axioms FCA.C16_render_split
#print axioms FCA.C16_render_width
#print axioms FCA.C16_kinds_no_newline
#print axioms FCA.C16_render_total
#print axioms FCA.C16_render_nothing
#print axioms FCA.C16_render_relations
