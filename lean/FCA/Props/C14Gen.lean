import FCA.Generated.Derive
import FCA.Proofs.DefnDerive
/-
C14 (and the conflict part of C13 / C17) over the regenerated source: `Definition.copy`, `inverted`, `transposed` and
`conflicting_pairs` (behind `union` / `intersection` / `*_update`), translated from the current `definitions.py` (set
comprehensions as `flatMap` / `filterMap` / `map` over the ordered names; `Unique & Unique` = the right operand's order), are
the model's `Defn.copy`, `Defn.inverted`, `Defn.transposed`, `conflicts` — about which `C14_*`, `C17_conflicts_*` are proved.
`take` is tied by the correspondence only.
-/
namespace FCA

theorem C14_generated_copy (d : Defn) : Generated.defn_copy d = d.copy := rfl

theorem C14_generated_transposed (d : Defn) : Generated.defn_transposed d = d.transposed := rfl

theorem C14_generated_inverted (d : Defn) : Generated.defn_inverted d = d.inverted :=
  congrArg (Defn.mk d.objs d.props) (inverted_pairs d).symm

/-- the pairs listed (and their order) in the `ValueError` of `union` / `intersection` -/
theorem C14_generated_conflicting_pairs (l r : Defn) : Generated.conflicting_pairs l r = conflicts l r := rfl

/-- `ensure_compatible(left, right)` raises iff the model's `step` rejects `union_update` / `intersection_update` without
`ignore_conflicts` -/
theorem C14_generated_ensure_compatible (d other : Defn) :
    ((d.step (.unionUpdate other false)).toOption.isNone ↔ Generated.conflicting_pairs d other ≠ []) ∧
    ((d.step (.intersectionUpdate other false)).toOption.isNone ↔ Generated.conflicting_pairs d other ≠ []) := by
  rw [C14_generated_conflicting_pairs]
  constructor <;>
  · simp only [Defn.step, Bool.not_false, Bool.true_and]
    cases h : conflicts d other <;> simp [Except.toOption]

end FCA
#print axioms FCA.C14_generated_copy
#print axioms FCA.C14_generated_transposed
#print axioms FCA.C14_generated_inverted
#print axioms FCA.C14_generated_conflicting_pairs
#print axioms FCA.C14_generated_ensure_compatible
