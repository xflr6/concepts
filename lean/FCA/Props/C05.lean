import FCA.Proofs.Lindig
import FCA.Proofs.LatticeSpec
/-
C05 — Neighbor links are exactly the covering relation (Hasse diagram).

`covers K G D`: `D` is a closed extent strictly above `G` with no closed extent strictly between.
-/
namespace FCA

/-- `upper` of every yielded record: precisely the concepts above with no concept strictly between,
without repeats -/
theorem C05_upper (K : Ctx) (h : K.WF) (r : Rec) (hr : r ∈ lindigLattice K) :
    r.upper.Nodup ∧ ∀ D, D ∈ r.upper ↔ covers K r.extent D := by
  have S := lindigLattice_spec h
  exact ⟨S.upper r hr ▸ neighbors_nodup h (S.closed hr), fun D => S.mem_upper h hr⟩

/-- `lower`, read after the generator is exhausted: precisely the concepts below with none between,
without repeats (this is the clause a "tuple-ise at yield time" change breaks) -/
theorem C05_lower_complete_at_exhaustion (K : Ctx) (h : K.WF) (r : Rec) (hr : r ∈ lindigLattice K) :
    r.lower.Nodup ∧ ∀ D, D ∈ r.lower ↔ closedObj K D ∧ covers K D r.extent := by
  have S := lindigLattice_spec h
  exact ⟨S.lower r hr ▸ S.nodup.filter _, fun D => S.mem_lower h hr⟩

/-- the two are converse: `d` is an upper neighbor of `c` iff `c` is a lower neighbor of `d` -/
theorem C05_converse (K : Ctx) (h : K.WF) (c d : Rec) (hc : c ∈ lindigLattice K) (hd : d ∈ lindigLattice K) :
    d.extent ∈ c.upper ↔ c.extent ∈ d.lower := by
  have S := lindigLattice_spec h
  have hcc : closedObj K c.extent := S.closed hc
  rw [(C05_upper K h c hc).2, (C05_lower_complete_at_exhaustion K h d hd).2]
  exact ⟨fun hcv => ⟨hcc, hcv⟩, fun hcv => hcv.2⟩

/-- every neighbor reference is a member of the lattice -/
theorem C05_links_are_members (K : Ctx) (h : K.WF) (r : Rec) (hr : r ∈ lindigLattice K) :
    (∀ D ∈ r.upper, D ∈ (lindigLattice K).map (·.extent)) ∧ (∀ D ∈ r.lower, D ∈ (lindigLattice K).map (·.extent)) := by
  have S := lindigLattice_spec h
  constructor
  · intro D hD
    exact (S.mem D).mpr ((C05_upper K h r hr).2 D |>.mp hD).1
  · intro D hD
    exact (S.mem D).mpr ((C05_lower_complete_at_exhaustion K h r hr).2 D |>.mp hD).1

/-- `context.neighbors(objects)`: exactly the upper covers of the concept generated by the objects,
each once, paired with its intent -/
theorem C05_context_neighbors (K : Ctx) (h : K.WF) (A : Nat) (hA : Bounded K.n A) :
    ((contextNeighbors K A).map Prod.fst).Nodup ∧
    (∀ D, D ∈ (contextNeighbors K A).map Prod.fst ↔ covers K (K.doubleObj A) D) ∧
    (∀ p ∈ contextNeighbors K A, isConcept K p.1 p.2) := by
  have hc := doubleObj_closed h A
  refine ⟨neighbors_nodup h hc, fun D => mem_neighbors_fst h hc, fun p hp => ?_⟩
  rw [isConcept_iff_closed]
  exact ⟨((mem_neighbors_fst h hc).mp (List.mem_map_of_mem hp)).1, neighbors_snd h hc hp⟩

/-! the same on the lattice object (`Concept.upper_neighbors` / `lower_neighbors` are positions after
`mapping[...]` and `sorted`) -/

/-- `c.upper_neighbors`: precisely the members `d > c` with no member strictly between, without repeats -/
theorem C05_lattice_upper (K : Ctx) (h : K.WF) (k : Nat) (c : LConcept) (hc : (mkLattice K)[k]? = some c) :
    c.upper.Nodup ∧ ∀ j, j ∈ c.upper ↔ ∃ d, (mkLattice K)[j]? = some d ∧ covers K c.extent d.extent := by
  have S := mkLattice_spec h
  exact ⟨S.upper_nodup hc, S.mem_upper_iff hc⟩

/-- `c.lower_neighbors`: precisely the members `d < c` with none between, without repeats -/
theorem C05_lattice_lower (K : Ctx) (h : K.WF) (k : Nat) (c : LConcept) (hc : (mkLattice K)[k]? = some c) :
    c.lower.Nodup ∧ ∀ j, j ∈ c.lower ↔ ∃ d, (mkLattice K)[j]? = some d ∧ covers K d.extent c.extent := by
  have S := mkLattice_spec h
  exact ⟨S.lower_nodup hc, S.mem_lower_iff hc⟩

/-- `d` is an upper neighbor of `c` iff `c` is a lower neighbor of `d` -/
theorem C05_lattice_converse (K : Ctx) (h : K.WF) (i j : Nat) (c d : LConcept)
    (hi : (mkLattice K)[i]? = some c) (hj : (mkLattice K)[j]? = some d) : j ∈ c.upper ↔ i ∈ d.lower :=
  (mkLattice_spec h).mem_upper_iff_mem_lower hi hj

/-- no link is lost when the extents yielded by the generator are resolved through the mapping: every
cover of a member is itself a member, and is referenced -/
theorem C05_links_resolved (K : Ctx) (h : K.WF) (k : Nat) (c : LConcept) (hc : (mkLattice K)[k]? = some c)
    (D : Nat) (hcv : covers K c.extent D) : ∃ j d, (mkLattice K)[j]? = some d ∧ d.extent = D ∧ j ∈ c.upper := by
  have S := mkLattice_spec h
  obtain ⟨d, hd, he⟩ := S.exists_of_closed hcv.1
  exact ⟨_, d, S.get_index hd, he, (S.mem_upper_iff hc _).mpr ⟨d, S.get_index hd, he ▸ hcv⟩⟩

def C05_exK : Ctx := mkCtx 3 3 #[0b011, 0b001, 0b110]
theorem C05_exK_WF : C05_exK.WF := mkCtx_WF rfl (by intro i hi; interval_cases i <;> decide)
example : (lindigLattice C05_exK).map (fun r => (r.extent, r.upper, r.lower)) =
    [(0, [1, 4], []), (1, [3, 5], [0]), (4, [5], [0]), (3, [7], [1]), (5, [7], [1, 4]), (7, [], [3, 5])] := by
  decide +kernel

end FCA
#print axioms FCA.C05_upper
#print axioms FCA.C05_lower_complete_at_exhaustion
#print axioms FCA.C05_converse
#print axioms FCA.C05_context_neighbors
