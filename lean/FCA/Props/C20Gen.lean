import FCA.Generated.Dot
import FCA.Model.Misc
/-
C20 over the regenerated source: the body of `for concept in lattice._concepts:` of `visualize.lattice`, translated from the
current `visualize.py` (node statement, the two guarded label edges with the callback applied to exactly `concept.objects` /
`concept.properties`, the edges to the lower neighbors sorted by index), folded over the concepts, is the model's `dotItems` —
about which `C20_*` are proved.
-/
namespace FCA

/-- one pass appends the model's statements for that concept -/
theorem C20_generated_dot_body (c : LConcept) (out : List DotItem) :
    Generated.dot_body c out = out ++
      ([DotItem.node c.index] ++
       (if c.objects.isEmpty then [] else [DotItem.objectLabel c.index c.objects]) ++
       (if c.properties.isEmpty then [] else [DotItem.propertyLabel c.index c.properties]) ++
       (sortBy id c.lower).map (DotItem.edge c.index)) := by
  simp only [Generated.dot_body]
  cases c.objects.isEmpty <;> cases c.properties.isEmpty <;> simp

theorem C20_generated_dot_fold (L : Lattice) (out : List DotItem) :
    L.foldl (fun out c => Generated.dot_body c out) out = out ++ dotItems L := by
  induction L generalizing out with
  | nil => exact (List.append_nil out).symm
  | cons c L ih =>
    rw [List.foldl_cons, ih, C20_generated_dot_body]
    simp only [dotItems, List.flatMap_cons, List.append_assoc]

/-- the statements `lattice.graphviz()` of the current source emits, in order -/
theorem C20_generated_dot (L : Lattice) :
    L.foldl (fun out c => Generated.dot_body c out) [] = dotItems L := by
  rw [C20_generated_dot_fold, List.nil_append]

end FCA
#print axioms FCA.C20_generated_dot_body
#print axioms FCA.C20_generated_dot_fold
#print axioms FCA.C20_generated_dot
