import FCA.Proofs.DefnOps
import FCA.Proofs.DefnSet
import FCA.Proofs.ListAux
/-
C13 — every edit history of a `Definition` matches the ordered-table model.

The model (`FCA/Model/Defn.lean`) *is* the plain ordered-table model: two ordered name lists and a
list of true cells used as a set.  Proved here: the model is well behaved for every history
(representation invariant `Defn.Inv`), `bools` is always rectangular, a definition satisfying the
invariant equals a fresh one built from its own triple (and a residue cell is visible as an
inequality), removed / renamed names leave nothing behind, new names are appended in the order
given, cell assignment touches exactly one cell, and rejected calls leave the state alone; the cell
list is a set (`C13_pairs_as_set*`: nothing observable depends on its order or on repeats); renaming
keeps the position and the table, removing keeps all other rows / columns.
-/
namespace FCA

def exD : Defn := ⟨["o1", "o2"], ["p1", "p2"], [("o1", "p1"), ("o2", "p2")]⟩
/-- overlaps `exD` on `o2`, `p2` and agrees there -/
def exE : Defn := ⟨["o2", "o3"], ["p2", "p3"], [("o2", "p2"), ("o3", "p3")]⟩
/-- conflicts with `exD` on the shared cell `(o2, p2)` -/
def exF : Defn := ⟨["o2", "o3"], ["p2", "p3"], [("o3", "p3")]⟩

theorem exD_inv : exD.Inv := by decide +kernel

theorem exE_inv : exE.Inv := by decide +kernel

theorem exF_inv : exF.Inv := by decide +kernel

/-- a successfully constructed definition satisfies the invariant -/
theorem C13_inv_ofTriple {os ps : List Name} {bs : List (List Bool)} {d : Defn}
    (h : Defn.ofTriple os ps bs = .ok d) : d.Inv := by
  obtain ⟨h1, h2, rfl⟩ := ofTriple_ok h
  refine ⟨h1, h2, nodup_eraseDups _, ?_⟩
  intro o p hop
  rw [List.mem_eraseDups, mem_triple_cells] at hop
  obtain ⟨row, hz1, hz2⟩ := hop
  exact ⟨(List.of_mem_zip hz1).1, (List.of_mem_zip hz2).1⟩

example : Defn.ofTriple ["o1", "o2"] ["p1", "p2"] [[true, false], [false, true]] = .ok exD := by decide +kernel

/-- the constructor rejects exactly duplicate names -/
theorem C13_ofTriple_rejects_iff {os ps : List Name} {bs : List (List Bool)} :
    (∃ e, Defn.ofTriple os ps bs = .error e) ↔ ¬os.Nodup ∨ ¬ps.Nodup := by
  rw [ofTriple_eq, ← not_and_or]
  exact ⟨fun ⟨_, h⟩ => (ite_ok_eq_error_iff.mp h).1, fun h => ⟨_, ite_ok_eq_error_iff.mpr ⟨h, rfl⟩⟩⟩

/-- every accepted mutator call preserves the invariant (all fifteen operations) -/
theorem C13_inv_step {d d' : Defn} {op : Op} {r : List Name} (h : d.Inv) (hop : op.operandInv)
    (hs : d.step op = .ok (d', r)) : d'.Inv := inv_step h hop hs

example : exD.Inv ∧ (Op.unionUpdate exE false).operandInv ∧
    ∃ d' r, exD.step (.unionUpdate exE false) = .ok (d', r) :=
  ⟨exD_inv, exE_inv, _, _, rfl⟩

example : ∃ d' r, exD.step (.renameObject "o1" "o9") = .ok (d', r) := ⟨_, _, rfl⟩

/-- every edit history (rejected calls are skipped: they raise and change nothing) keeps the
invariant -/
theorem C13_inv_history {d : Defn} {ops : List Op} (h : d.Inv) (hops : ∀ op ∈ ops, op.operandInv) :
    (d.runHistory ops).Inv := by
  induction ops generalizing d with
  | nil => exact h
  | cons op ops ih =>
    have hops' : ∀ op' ∈ ops, op'.operandInv := fun op' hm => hops op' (List.mem_cons_of_mem _ hm)
    unfold Defn.runHistory
    split
    · rename_i d' r hs
      exact ih (inv_step h (hops op List.mem_cons_self) hs) hops'
    · exact ih h hops'

/-- the same for histories that stop at the first rejected call -/
theorem C13_inv_history_strict {d d' : Defn} {ops : List Op} (h : d.Inv)
    (hops : ∀ op ∈ ops, op.operandInv) (hr : d.runHistoryStrict ops = .ok d') : d'.Inv :=
  runHistory_of_strict hr ▸ C13_inv_history h hops

/-- histories starting from the empty definition or from any constructed one -/
theorem C13_inv_history_empty {ops : List Op} (hops : ∀ op ∈ ops, op.operandInv) :
    (Defn.empty.runHistory ops).Inv := C13_inv_history Defn.inv_empty hops

example : (exD.runHistory [.removeObject "o1", .removeObject "nope", .addObject "o1" ["p3"],
    .unionUpdate exF false, .setItem "o7" "p1" true]).objs = ["o2", "o1", "o7"] := by decide +kernel

/-- one row per object and one cell per property, for every state whatsoever -/
theorem C13_bools_shape (d : Defn) :
    d.bools.length = d.objs.length ∧ ∀ row ∈ d.bools, row.length = d.props.length :=
  ⟨bools_length d, bools_row_length d⟩

/-- `d == Definition(*d)` holds exactly when the names are duplicate free and no cell lies outside
`objs × props` -/
theorem C13_freshEq_iff (d : Defn) :
    d.freshEq = true ↔
      d.objs.Nodup ∧ d.props.Nodup ∧ ∀ o p, (o, p) ∈ d.pairs → o ∈ d.objs ∧ p ∈ d.props := by
  unfold Defn.freshEq
  rw [ofTriple_eq]
  by_cases hn : d.objs.Nodup ∧ d.props.Nodup
  · rw [if_pos hn]
    simp only [eqv_iff, iff_self, implies_true, true_and, List.mem_eraseDups, Prod.forall, fresh_cells_eq, mem_subtable,
      hn.1, hn.2, ← and_assoc, iff_and_self]
  · rw [if_neg hn]
    exact ⟨fun h => (nomatch h), fun h => absurd ⟨h.1, h.2.1⟩ hn⟩

/-- under the invariant the definition equals a fresh one built from its own triple -/
theorem C13_fresh_eq {d : Defn} (h : d.Inv) : d.freshEq = true :=
  (C13_freshEq_iff d).mpr ⟨h.1, h.2.1, h.2.2.2⟩

example : exD.Inv ∧ exD.freshEq = true := ⟨exD_inv, by decide +kernel⟩

/-- after every history the definition equals the fresh definition built from its own triple -/
theorem C13_fresh_eq_history {d : Defn} {ops : List Op} (h : d.Inv)
    (hops : ∀ op ∈ ops, op.operandInv) : (d.runHistory ops).freshEq = true :=
  C13_fresh_eq (C13_inv_history h hops)

/-- a residue cell (a true cell of a name that is not listed) makes the comparison fail -/
theorem C13_residue_visible {d : Defn} {o p : Name} (hop : (o, p) ∈ d.pairs)
    (hout : o ∉ d.objs ∨ p ∉ d.props) : d.freshEq = false := by
  rw [Bool.eq_false_iff]
  intro h
  have := ((C13_freshEq_iff d).mp h).2.2 o p hop
  exact hout.elim (fun ho => ho this.1) (fun hp => hp this.2)

example : (⟨["o1"], ["p1"], [("o1", "p1"), ("gone", "p1")]⟩ : Defn).freshEq = false := by decide +kernel

theorem C13_no_residue_remove {d d' : Defn} {o : Name} {r : List Name} (h : d.Inv)
    (hs : d.step (.removeObject o) = .ok (d', r)) :
    o ∉ d'.objs ∧ ∀ p, (o, p) ∉ d'.pairs := by
  obtain ⟨_, _, rfl⟩ := step_removeObject_ok hs
  refine ⟨by simp, fun p hp => ?_⟩
  rw [mem_removeObj] at hp
  exact hp.2 ⟨rfl, (h.mem hp.1).2⟩

theorem C13_no_residue_removeProperty {d d' : Defn} {p : Name} {r : List Name} (h : d.Inv)
    (hs : d.step (.removeProperty p) = .ok (d', r)) :
    p ∉ d'.props ∧ ∀ o, (o, p) ∉ d'.pairs := by
  simpa using C13_no_residue_remove h.transposed (step_swap_ok hs)

theorem C13_no_residue_renameObject {d d' : Defn} {old new : Name} {r : List Name}
    (hs : d.step (.renameObject old new) = .ok (d', r)) :
    old ∉ d'.objs ∧ (∀ p, (old, p) ∉ d'.pairs) ∧
    ∀ p, (new, p) ∈ d'.pairs ↔ (old, p) ∈ d.pairs ∨ (new, p) ∈ d.pairs := by
  obtain ⟨hn, ho, _, rfl⟩ := step_renameObject_ok hs
  have hne : new ≠ old := fun e => hn (e ▸ ho)
  refine ⟨fun h => ?_, fun p hp => ?_, fun p => mem_renameObj.trans ?_⟩
  · exact (mem_replace.mp h).elim (fun h => h.2 rfl) (fun h => hne h.1.symm)
  · exact (mem_renameObj.mp hp).elim (fun h => h.2 rfl) (fun h => hne h.1.symm)
  · exact ⟨fun h => h.elim (fun h => Or.inr h.1) (fun h => Or.inl h.2),
      fun h => h.elim (fun h => Or.inr ⟨rfl, h⟩) (fun h => Or.inl ⟨h, hne⟩)⟩

theorem C13_no_residue_renameProperty {d d' : Defn} {old new : Name} {r : List Name}
    (hs : d.step (.renameProperty old new) = .ok (d', r)) :
    old ∉ d'.props ∧ (∀ o, (o, old) ∉ d'.pairs) ∧
    ∀ o, (o, new) ∈ d'.pairs ↔ (o, old) ∈ d.pairs ∨ (o, new) ∈ d.pairs := by
  simpa using C13_no_residue_renameObject (step_swap_ok hs)

example : exD.Inv ∧ ∃ d' r, exD.step (.removeObject "o1") = .ok (d', r) := ⟨exD_inv, _, _, rfl⟩

/-- adding a name that is not listed (in a state satisfying the invariant) gives an all-false row:
nothing of an earlier life of that name can reappear -/
theorem C13_add_fresh_empty_row {d : Defn} {o : Name} (h : d.Inv) (ho : o ∉ d.objs) :
    ∃ d', d.step (.addObject o []) = .ok (d', []) ∧ d'.objs = d.objs ++ [o] ∧ d'.props = d.props ∧
      d'.bools = d.bools ++ [List.replicate d.props.length false] := by
  refine ⟨_, rfl, uAdd_of_not_mem ho, rfl, ?_⟩
  rw [Defn.bools, uAdd_of_not_mem ho, List.map_append]
  refine congrArg (d.bools ++ [·]) (List.map_eq_replicate_iff.mpr fun p _ => ?_)
  exact Bool.eq_false_iff.mpr fun hc => ho (h.mem (List.contains_iff_mem.mp hc)).1

/-- remove an object, add it again: its row is all false -/
theorem C13_readd_empty_row {d d1 d2 : Defn} {o : Name} {r1 r2 : List Name} (h : d.Inv)
    (hs1 : d.step (.removeObject o) = .ok (d1, r1)) (hs2 : d1.step (.addObject o []) = .ok (d2, r2)) :
    d2.objs = d1.objs ++ [o] ∧ d2.props = d.props ∧
    d2.bools = d1.bools ++ [List.replicate d.props.length false] ∧
    ∀ p ∈ d2.props, d2.getItem o p = .ok false := by
  have hno := C13_no_residue_remove h hs1
  obtain ⟨d', hd', e1, e2, e3⟩ := C13_add_fresh_empty_row (inv_step (op := .removeObject o) h trivial hs1) hno.1
  cases hs2
  cases hd'
  obtain ⟨_, _, rfl⟩ := step_removeObject_ok hs1
  refine ⟨e1, e2, e3, fun p hp => ?_⟩
  rw [getItem_of_mem (e1 ▸ List.mem_append_right _ (List.mem_singleton_self o)) hp]
  exact congrArg Except.ok (Bool.eq_false_iff.mpr fun hc => hno.2 p (List.contains_iff_mem.mp hc))

example : ∃ d1 r1 d2 r2, exD.step (.removeObject "o1") = .ok (d1, r1) ∧
    d1.step (.addObject "o1" []) = .ok (d2, r2) ∧ d2.bools = [[false, true], [false, false]] :=
  ⟨_, _, _, _, rfl, rfl, by decide +kernel⟩

/-- ... also after an arbitrary history in between -/
theorem C13_readd_empty_row_history {d : Defn} {ops : List Op} {o : Name} (h : d.Inv)
    (hops : ∀ op ∈ ops, op.operandInv) (ho : o ∉ (d.runHistory ops).objs) :
    ∃ d', (d.runHistory ops).step (.addObject o []) = .ok (d', []) ∧
      d'.bools = (d.runHistory ops).bools ++ [List.replicate (d.runHistory ops).props.length false] := by
  obtain ⟨d', h1, _, _, h2⟩ := C13_add_fresh_empty_row (C13_inv_history h hops) ho
  exact ⟨d', h1, h2⟩

theorem C13_append_order (l xs : List Name) :
    uIor l xs = l ++ uniq (xs.filter (fun x => !l.contains x)) := uIor_eq l xs

example : uIor ["a", "b"] ["c", "b", "d", "c"] = ["a", "b", "c", "d"] := by decide +kernel

theorem C13_append_order_uAdd (l : List Name) (x : Name) :
    uAdd l x = l ++ (if x ∈ l then [] else [x]) := by
  by_cases h : x ∈ l <;> simp [uAdd, h]

theorem C13_append_order_addObject {d d' : Defn} {o : Name} {ps r : List Name}
    (hs : d.step (.addObject o ps) = .ok (d', r)) :
    d'.objs = d.objs ++ (if o ∈ d.objs then [] else [o]) ∧
    d'.props = d.props ++ uniq (ps.filter (fun x => !d.props.contains x)) ∧ r = [] := by
  cases hs
  exact ⟨C13_append_order_uAdd _ _, uIor_eq _ _, rfl⟩

theorem C13_append_order_addProperty {d d' : Defn} {p : Name} {os r : List Name}
    (hs : d.step (.addProperty p os) = .ok (d', r)) :
    d'.objs = d.objs ++ uniq (os.filter (fun x => !d.objs.contains x)) ∧
    d'.props = d.props ++ (if p ∈ d.props then [] else [p]) ∧ r = [] := by
  cases hs
  exact ⟨uIor_eq _ _, C13_append_order_uAdd _ _, rfl⟩

theorem C13_append_order_setObject {d d' : Defn} {o : Name} {ps r : List Name}
    (hs : d.step (.setObject o ps) = .ok (d', r)) :
    d'.objs = d.objs ++ (if o ∈ d.objs then [] else [o]) ∧
    d'.props = d.props ++ uniq (ps.filter (fun x => !d.props.contains x)) ∧ r = [] := by
  cases hs
  exact ⟨C13_append_order_uAdd _ _, uIor_eq _ _, rfl⟩

theorem C13_append_order_setProperty {d d' : Defn} {p : Name} {os r : List Name}
    (hs : d.step (.setProperty p os) = .ok (d', r)) :
    d'.objs = d.objs ++ uniq (os.filter (fun x => !d.objs.contains x)) ∧
    d'.props = d.props ++ (if p ∈ d.props then [] else [p]) ∧ r = [] := by
  cases hs
  exact ⟨uIor_eq _ _, C13_append_order_uAdd _ _, rfl⟩

theorem C13_append_order_setItem {d d' : Defn} {o p : Name} {v : Bool} {r : List Name}
    (hs : d.step (.setItem o p v) = .ok (d', r)) :
    d'.objs = d.objs ++ (if o ∈ d.objs then [] else [o]) ∧
    d'.props = d.props ++ (if p ∈ d.props then [] else [p]) ∧ r = [] := by
  cases hs
  exact ⟨C13_append_order_uAdd _ _, C13_append_order_uAdd _ _, rfl⟩

theorem C13_append_order_unionUpdate {d d' other : Defn} {ig : Bool} {r : List Name}
    (hs : d.step (.unionUpdate other ig) = .ok (d', r)) :
    d'.objs = d.objs ++ uniq (other.objs.filter (fun x => !d.objs.contains x)) ∧
    d'.props = d.props ++ uniq (other.props.filter (fun x => !d.props.contains x)) ∧ r = [] := by
  obtain ⟨rfl, rfl⟩ := step_unionUpdate_ok hs
  exact ⟨uIor_eq _ _, uIor_eq _ _, rfl⟩

theorem C13_addObject_cells {d d' : Defn} {o : Name} {ps r : List Name}
    (hs : d.step (.addObject o ps) = .ok (d', r)) (a b : Name) :
    (a, b) ∈ d'.pairs ↔ (a, b) ∈ d.pairs ∨ (a = o ∧ b ∈ ps) := by
  cases hs; exact mem_foldl_pAdd_row

theorem C13_addProperty_cells {d d' : Defn} {p : Name} {os r : List Name}
    (hs : d.step (.addProperty p os) = .ok (d', r)) (a b : Name) :
    (a, b) ∈ d'.pairs ↔ (a, b) ∈ d.pairs ∨ (b = p ∧ a ∈ os) := by
  simpa using C13_addObject_cells (step_swap_ok hs) b a

/-- `set_object`: the row of `o` becomes exactly `ps`, all other rows are unchanged -/
theorem C13_setObject_cells {d d' : Defn} {o : Name} {ps r : List Name} (h : d.Inv)
    (hs : d.step (.setObject o ps) = .ok (d', r)) (a b : Name) :
    (a, b) ∈ d'.pairs ↔ if a = o then b ∈ ps else (a, b) ∈ d.pairs := by
  cases hs
  simp only [mem_foldl_setRow, mem_uIor]
  by_cases ha : a = o
  · subst ha
    simp only [true_and, if_true]
    split
    · rfl
    · rename_i hb
      constructor
      · intro hab; exact absurd (Or.inl (h.mem hab).2) hb
      · intro hb'; exact absurd (Or.inr hb') hb
  · simp [ha]

theorem C13_setProperty_cells {d d' : Defn} {p : Name} {os r : List Name} (h : d.Inv)
    (hs : d.step (.setProperty p os) = .ok (d', r)) (a b : Name) :
    (a, b) ∈ d'.pairs ↔ if b = p then a ∈ os else (a, b) ∈ d.pairs := by
  simpa using C13_setObject_cells h.transposed (step_swap_ok hs) b a

/-- `d[o, p] = v`: the cell reads `v` afterwards, every other cell is unchanged (as a set of true
cells, and as read through `d[o', p']` for the old names) -/
theorem C13_setitem_cells {d d' : Defn} {o p : Name} {v : Bool} {r : List Name}
    (hs : d.step (.setItem o p v) = .ok (d', r)) :
    d'.getItem o p = .ok v ∧ r = [] ∧
    (∀ o' p', (o', p') ≠ (o, p) → ((o', p') ∈ d'.pairs ↔ (o', p') ∈ d.pairs)) ∧
    (∀ o' p', o' ∈ d.objs → p' ∈ d.props → (o', p') ≠ (o, p) → d'.getItem o' p' = d.getItem o' p') := by
  cases hs
  have hcells : ∀ o' p', (o', p') ≠ (o, p) →
      ((o', p') ∈ (if v then pAdd d.pairs (o, p) else pDiscard d.pairs (o, p)) ↔ (o', p') ∈ d.pairs) :=
    fun o' p' hne => mem_setCell.trans (by rw [if_neg hne])
  refine ⟨?_, rfl, hcells, fun o' p' ho' hp' hne => ?_⟩
  · refine (getItem_of_mem (mem_uAdd.mpr (Or.inr rfl)) (mem_uAdd.mpr (Or.inr rfl))).trans (congrArg Except.ok ?_)
    exact Bool.eq_iff_iff.mpr (List.contains_iff_mem.trans (mem_setCell.trans (by rw [if_pos rfl])))
  · exact getItem_eq_of_iff (iff_of_true (mem_uAdd.mpr (Or.inl ho')) ho')
      (iff_of_true (mem_uAdd.mpr (Or.inl hp')) hp') (hcells o' p' hne)

example : ∃ d' r, exD.step (.setItem "o1" "p2" true) = .ok (d', r) ∧
    d'.getItem "o1" "p2" = .ok true ∧ d'.getItem "o1" "p1" = .ok true :=
  exists_ok_pair_of_decide (by decide +kernel)

/-- `move_object`: exact semantics of `Unique.move` on the object list: the name
must be known; if it already sits at index `i` nothing changes, otherwise it is taken out and
inserted at the clamped index `i` of the remaining names; properties and cells are untouched -/
theorem C13_moveObject {d d' : Defn} {o : Name} {i : Int} {r : List Name} (h : d.Inv)
    (hs : d.step (.moveObject o i) = .ok (d', r)) :
    o ∈ d.objs ∧ d'.props = d.props ∧ d'.pairs = d.pairs ∧ r = [] ∧ d'.objs.Perm d.objs ∧
    d'.objs.filter (· != o) = d.objs.filter (· != o) ∧
    ((d'.objs = d.objs ∧ ∃ idx : Nat, d.objs[idx]? = some o ∧ (idx : Int) = i) ∨
     (d'.objs = (d.objs.filter (· != o)).take (clampIdx (d.objs.length - 1) i) ++
            o :: (d.objs.filter (· != o)).drop (clampIdx (d.objs.length - 1) i) ∧
      ∀ idx : Nat, d.objs[idx]? = some o → (idx : Int) ≠ i)) := by
  obtain ⟨l, hu, rfl, rfl⟩ := step_moveObject_ok hs
  exact ⟨uMove_mem hu, rfl, rfl, rfl, uMove_perm hu, uMove_filter hu, uMove_spec h.1 hu⟩

theorem C13_moveProperty {d d' : Defn} {p : Name} {i : Int} {r : List Name} (h : d.Inv)
    (hs : d.step (.moveProperty p i) = .ok (d', r)) :
    p ∈ d.props ∧ d'.objs = d.objs ∧ d'.pairs = d.pairs ∧ r = [] ∧ d'.props.Perm d.props ∧
    d'.props.filter (· != p) = d.props.filter (· != p) ∧
    ((d'.props = d.props ∧ ∃ idx : Nat, d.props[idx]? = some p ∧ (idx : Int) = i) ∨
     (d'.props = (d.props.filter (· != p)).take (clampIdx (d.props.length - 1) i) ++
            p :: (d.props.filter (· != p)).drop (clampIdx (d.props.length - 1) i) ∧
      ∀ idx : Nat, d.props[idx]? = some p → (idx : Int) ≠ i)) := by
  obtain ⟨h1, h2, h3, h4⟩ := C13_moveObject h.transposed (step_swap_ok hs)
  exact ⟨h1, h2, transposed_pairs_inj.mp h3, h4⟩

/-- Python's clamping: negative indexes count from the end of the remaining list -/
theorem C13_clampIdx (len : Nat) (i : Int) :
    clampIdx len i ≤ len ∧ (clampIdx len i : Int) = if i < 0 then max 0 (i + len) else min i len := by
  have hs : (clampIdx len i : Int) = if i < 0 then max 0 (i + len) else min i len := by
    unfold clampIdx
    by_cases h : i < 0
    · rw [if_pos h, if_pos h]
      by_cases h' : i + (len : Int) < 0
      · rw [if_pos h', max_eq_left h'.le]; rfl
      · rw [if_neg h', max_eq_right (not_lt.mp h'), Int.toNat_of_nonneg (not_lt.mp h')]
    · rw [if_neg h, if_neg h]
      by_cases h' : i > (len : Int)
      · rw [if_pos h', min_eq_right h'.le]; rfl
      · rw [if_neg h', min_eq_left (not_lt.mp h'), Int.toNat_of_nonneg (not_lt.mp h)]
  refine ⟨Int.ofNat_le.mp ?_, hs⟩
  rw [hs]
  split
  · exact max_le (Int.natCast_nonneg _) (by omega)
  · exact min_le_right _ _

example : ∃ d' r, (⟨["a", "b", "c", "d"], [], []⟩ : Defn).step (.moveObject "a" (-1)) = .ok (d', r) ∧
    d'.objs = ["b", "c", "a", "d"] := exists_ok_pair_of_decide (by decide +kernel)
example : ∃ d' r, (⟨["a", "b", "c", "d"], [], []⟩ : Defn).step (.moveObject "d" 99) = .ok (d', r) ∧
    d'.objs = ["a", "b", "c", "d"] := exists_ok_pair_of_decide (by decide +kernel)

theorem C13_reject_iff (d : Defn) (op : Op) : (∃ e, d.step op = .error e) ↔ op.rejectedBy d :=
  ⟨fun ⟨_, h⟩ => (step_error_iff.mp h).2, fun h => ⟨_, step_error_iff.mpr ⟨rfl, h⟩⟩⟩

theorem C13_reject_class {d : Defn} {op : Op} {e : Err} (h : d.step op = .error e) :
    e = op.errClass := (step_error_iff.mp h).1

/-- a rejected call carries no state: the history continues from the unchanged definition, and
the trace records the exception -/
theorem C13_reject_atomic {d : Defn} {op : Op} {e : Err} (ops : List Op) (h : d.step op = .error e) :
    d.runHistory (op :: ops) = d.runHistory ops ∧
    d.runTrace (op :: ops) = ((d.runTrace ops).1, .error e :: (d.runTrace ops).2) ∧
    ∀ x : Defn × List Name, d.step op ≠ .ok x := by
  refine ⟨?_, ?_, ?_⟩
  · simp [Defn.runHistory, h]
  · simp [Defn.runTrace, h]
  · intro x hx; rw [h] at hx; cases hx

example : exD.step (.unionUpdate exF false) = .error .valueError := by decide +kernel
example : exD.step (.renameObject "o1" "o2") = .error .valueError := by decide
example : exD.step (.removeProperty "nope") = .error .keyError := by decide

/-- the final state of the trace is the final state of the history, one entry per call -/
theorem C13_trace_history (d : Defn) (ops : List Op) :
    (d.runTrace ops).1 = d.runHistory ops ∧ (d.runTrace ops).2.length = ops.length := by
  induction ops generalizing d with
  | nil => simp [Defn.runTrace, Defn.runHistory]
  | cons op ops ih =>
    unfold Defn.runTrace Defn.runHistory
    cases hs : d.step op with
    | error e => simp [ih d]
    | ok x => obtain ⟨d', r⟩ := x; simp [ih d']

theorem C13_return_none {d d' : Defn} {op : Op} {r : List Name} (hs : d.step op = .ok (d', r))
    (h : op.returnsNames = false) : r = [] := by
  rcases step_total d op with ⟨_, he⟩ | ⟨_, d'', r', hs', hr⟩
  · rw [he] at hs; cases hs
  · rw [hs'] at hs; cases hs; exact hr h

/-- `remove_empty_objects` returns exactly the listed names without a true cell, in table order,
removes exactly those and keeps the order of the others and all cells -/
theorem C13_removeEmptyObjects {d d' : Defn} {r : List Name}
    (hs : d.step .removeEmptyObjects = .ok (d', r)) :
    r.Sublist d.objs ∧ (∀ o, o ∈ r ↔ o ∈ d.objs ∧ ∀ p, (o, p) ∉ d.pairs) ∧
    d'.objs = d.objs.filter (fun o => !r.contains o) ∧
    (∀ o, o ∈ d'.objs ↔ o ∈ d.objs ∧ ∃ p, (o, p) ∈ d.pairs) ∧
    d'.props = d.props ∧ d'.pairs = d.pairs := by
  cases hs
  refine ⟨List.filter_sublist, fun _ => mem_emptyObjs, rfl, fun o => ?_, rfl, rfl⟩
  rw [List.mem_filter, Bool.not_eq_true', ← Bool.not_eq_true, List.contains_iff_mem, mem_emptyObjs]
  exact and_congr_right fun h1 => by rw [not_and, ← not_forall_not]; exact ⟨fun h => h h1, fun h _ => h⟩

theorem C13_removeEmptyProperties {d d' : Defn} {r : List Name}
    (hs : d.step .removeEmptyProperties = .ok (d', r)) :
    r.Sublist d.props ∧ (∀ p, p ∈ r ↔ p ∈ d.props ∧ ∀ o, (o, p) ∉ d.pairs) ∧
    d'.props = d.props.filter (fun p => !r.contains p) ∧
    (∀ p, p ∈ d'.props ↔ p ∈ d.props ∧ ∃ o, (o, p) ∈ d.pairs) ∧
    d'.objs = d.objs ∧ d'.pairs = d.pairs := by
  obtain ⟨h1, h2, h3, h4, h5, h6⟩ := C13_removeEmptyObjects (step_swap_ok hs)
  simp only [transposed_objs, transposed_props, mem_transposed] at h1 h2 h3 h4 h5
  exact ⟨h1, h2, h3, h4, h5, transposed_pairs_inj.mp h6⟩

example : ∃ d' r, (⟨["o1", "o2", "o3"], ["p1"], [("o2", "p1")]⟩ : Defn).step .removeEmptyObjects
    = .ok (d', r) ∧ r = ["o1", "o3"] ∧ d'.objs = ["o2"] := exists_ok_pair_of_decide (by decide +kernel)

/-- the same definition with its cell set enumerated differently (other order, repeats) -/
def exD' : Defn := ⟨["o1", "o2"], ["p1", "p2"], [("o2", "p2"), ("o1", "p1"), ("o2", "p2")]⟩

theorem exD_sameSet : exD.SameSet exD' :=
  ⟨rfl, rfl, fun _ => ⟨fun h => (by decide : exD.pairs ⊆ exD'.pairs) h,
    fun h => (by decide : exD'.pairs ⊆ exD.pairs) h⟩⟩

/-- every observable of a definition depends only on *membership* in `pairs`, not on the order or
multiplicity of that list (a Python `set`): the table, cell reads, the comparison with a fresh
definition, order-insensitive equality, the conflict list against any other definition, and for
every mutator call (also with a re-enumerated operand): both calls fail with the same exception
class or both succeed with the same names, the same return value and the same set of cells -/
theorem C13_pairs_as_set (d d' : Defn) (ho : d.objs = d'.objs) (hp : d.props = d'.props)
    (hm : ∀ x, x ∈ d.pairs ↔ x ∈ d'.pairs) :
    d.bools = d'.bools ∧ (∀ o p, d.getItem o p = d'.getItem o p) ∧ d.freshEq = d'.freshEq ∧
    (∀ e, d.eqv e = d'.eqv e ∧ e.eqv d = e.eqv d') ∧
    (∀ e, d.conflictList e = d'.conflictList e ∧ e.conflictList d = e.conflictList d') ∧
    (∀ op op', op.SameSet op' →
      match d.step op, d'.step op' with
      | .ok (x, r), .ok (x', r') =>
          x.objs = x'.objs ∧ x.props = x'.props ∧ r = r' ∧ ∀ y, y ∈ x.pairs ↔ y ∈ x'.pairs
      | .error e, .error e' => e = e'
      | _, _ => False) := by
  have h : d.SameSet d' := ⟨ho, hp, hm⟩
  refine ⟨bools_congr h, getItem_congr h, ?_, ?_, ?_, ?_⟩
  · rw [Bool.eq_iff_iff, C13_freshEq_iff, C13_freshEq_iff, ho, hp]
    simp only [hm]
  · exact fun e => ⟨eqv_congr h (.refl e), eqv_congr (.refl e) h⟩
  · exact fun e => ⟨conflicts_congr h (.refl e), conflicts_congr (.refl e) h⟩
  · intro op op' hop
    have := step_sameSet h hop
    generalize d.step op = a at this
    generalize d'.step op' = b at this
    cases this with
    | ok r hx => exact ⟨hx.1, hx.2.1, rfl, hx.2.2⟩
    | error e => rfl

example : exD.objs = exD'.objs ∧ exD.props = exD'.props ∧ (∀ x, x ∈ exD.pairs ↔ x ∈ exD'.pairs) ∧
    exD.pairs ≠ exD'.pairs := ⟨rfl, rfl, exD_sameSet.2.2, by decide⟩

/-- … and so does every edit history: same final names, same set of cells, same table, and the same
sequence of return values / exception classes -/
theorem C13_pairs_as_set_history (d d' : Defn) (ops ops' : List Op) (ho : d.objs = d'.objs)
    (hp : d.props = d'.props) (hm : ∀ x, x ∈ d.pairs ↔ x ∈ d'.pairs)
    (hops : List.Forall₂ Op.SameSet ops ops') :
    (d.runHistory ops).objs = (d'.runHistory ops').objs ∧
    (d.runHistory ops).props = (d'.runHistory ops').props ∧
    (∀ x, x ∈ (d.runHistory ops).pairs ↔ x ∈ (d'.runHistory ops').pairs) ∧
    (d.runHistory ops).bools = (d'.runHistory ops').bools ∧
    (d.runTrace ops).2 = (d'.runTrace ops').2 := by
  obtain ⟨h1, h2⟩ := runTrace_sameSet (d := d) (d' := d') ⟨ho, hp, hm⟩ hops
  rw [(C13_trace_history d ops).1, (C13_trace_history d' ops').1] at h1
  exact ⟨h1.1, h1.2.1, h1.2.2, bools_congr h1, h2⟩

/-- the deriving operations: `inverted` and `take` do not see the enumeration at all, `transposed`
maps it to another enumeration of the transposed set -/
theorem C13_pairs_as_set_derived (d d' : Defn) (ho : d.objs = d'.objs) (hp : d.props = d'.props)
    (hm : ∀ x, x ∈ d.pairs ↔ x ∈ d'.pairs) :
    d.inverted = d'.inverted ∧ (∀ a b r, d.take a b r = d'.take a b r) ∧
    d.transposed.objs = d'.transposed.objs ∧ d.transposed.props = d'.transposed.props ∧
    (∀ x, x ∈ d.transposed.pairs ↔ x ∈ d'.transposed.pairs) ∧
    d.transposed.bools = d'.transposed.bools :=
  have h : d.SameSet d' := ⟨ho, hp, hm⟩
  ⟨inverted_congr h, take_congr h, (transposed_sameSet h).1, (transposed_sameSet h).2.1,
    (transposed_sameSet h).2.2, bools_congr (transposed_sameSet h)⟩

/-- `rename_object`: the new name sits at the index of the old one, all other names stay where they
are, properties are untouched; cells of other objects are unchanged and the row of the new name is the
row of the old one — under the invariant the whole table is unchanged -/
theorem C13_rename_keeps_position {d d' : Defn} {old new : Name} {r : List Name} (h : d.Inv)
    (hs : d.step (.renameObject old new) = .ok (d', r)) :
    d'.objs.length = d.objs.length ∧
    (∀ i : Nat, d'.objs[i]? = (d.objs[i]?).map fun x => if x = old then new else x) ∧
    d'.objs.idxOf new = d.objs.idxOf old ∧
    d'.props = d.props ∧
    (∀ a b, a ≠ old → a ≠ new → ((a, b) ∈ d'.pairs ↔ (a, b) ∈ d.pairs)) ∧
    (∀ b, (new, b) ∈ d'.pairs ↔ (old, b) ∈ d.pairs) ∧
    (∀ a b, a ∈ d.objs → a ≠ old → d'.getItem a b = d.getItem a b) ∧
    (∀ b, d'.getItem new b = d.getItem old b) ∧
    d'.bools = d.bools := by
  obtain ⟨hn, ho, _, rfl⟩ := step_renameObject_ok hs
  have hother : ∀ a b, a ≠ old → a ≠ new →
      ((a, b) ∈ (d.pairs.map fun (o, p) => if o == old then (new, p) else (o, p)) ↔ (a, b) ∈ d.pairs) :=
    fun a b h1 h2 => mem_renameObj.trans
      ⟨fun hab => hab.elim (·.1) fun h' => absurd h'.1 h2, fun hab => Or.inl ⟨hab, h1⟩⟩
  -- no cell of `new` before, since `new` is not a listed object
  have hnew : ∀ b, (new, b) ∈ (d.pairs.map fun (o, p) => if o == old then (new, p) else (o, p)) ↔
      (old, b) ∈ d.pairs :=
    fun b => mem_renameObj.trans
      ⟨fun hab => hab.elim (fun h' => absurd (h.mem h'.1).1 hn) (·.2), fun hab => Or.inr ⟨rfl, hab⟩⟩
  refine ⟨List.length_map _, fun i => by simp only [List.getElem?_map, beq_iff_eq], idxOf_replace hn, rfl, hother, hnew,
    fun a b ha hao => ?_, fun b => ?_, ?_⟩
  · exact getItem_eq_of_iff (iff_of_true (mem_replace.mpr (Or.inl ⟨ha, hao⟩)) ha) Iff.rfl
      (hother a b hao fun e => hn (e ▸ ha))
  · exact getItem_eq_of_iff (iff_of_true (mem_replace.mpr (Or.inr ⟨rfl, ho⟩)) ho) Iff.rfl (hnew b)
  · refine bools_eq_of_map (fun x => if x == old then new else x) id rfl (List.map_id _).symm fun a ha b _ => ?_
    by_cases hao : a = old
    · rw [hao, if_pos (beq_self_eq_true old)]; exact hnew b
    · rw [if_neg (mt beq_iff_eq.mp hao)]; exact hother a b hao fun e => hn (e ▸ ha)

example : exD.Inv ∧ ∃ d' r, exD.step (.renameObject "o1" "o9") = .ok (d', r) ∧
    d'.objs = ["o9", "o2"] ∧ d'.bools = exD.bools := ⟨exD_inv, exists_ok_pair_of_decide (by decide +kernel)⟩

/-- `rename_property`: the column twin -/
theorem C13_rename_keeps_position_property {d d' : Defn} {old new : Name} {r : List Name} (h : d.Inv)
    (hs : d.step (.renameProperty old new) = .ok (d', r)) :
    d'.props.length = d.props.length ∧
    (∀ i : Nat, d'.props[i]? = (d.props[i]?).map fun x => if x = old then new else x) ∧
    d'.props.idxOf new = d.props.idxOf old ∧
    d'.objs = d.objs ∧
    (∀ a b, b ≠ old → b ≠ new → ((a, b) ∈ d'.pairs ↔ (a, b) ∈ d.pairs)) ∧
    (∀ a, (a, new) ∈ d'.pairs ↔ (a, old) ∈ d.pairs) ∧
    (∀ a b, b ∈ d.props → b ≠ old → d'.getItem a b = d.getItem a b) ∧
    (∀ a, d'.getItem a new = d.getItem a old) ∧
    d'.bools = d.bools := by
  obtain ⟨h1, h2, h3, h4, h5, h6, h7, h8, _⟩ :=
    C13_rename_keeps_position h.transposed (step_swap_ok hs)
  simp only [transposed_objs, transposed_props, mem_transposed, getItem_transposed] at h1 h2 h3 h4 h5 h6 h7 h8
  refine ⟨h1, h2, h3, h4, fun a b => h5 b a, h6, fun a b => h7 b a, h8, ?_⟩
  have hn : new ∉ d.props := (step_renameObject_ok (step_swap_ok hs)).1
  refine bools_eq_of_map id (fun x => if x = old then new else x) (by rw [h4, List.map_id])
    (List.ext_getElem? fun i => by rw [h2, List.getElem?_map]) fun a _ b hb => ?_
  by_cases hbo : b = old
  · simpa [hbo] using h6 a
  · simpa [hbo] using h5 b a hbo fun e => hn (e ▸ hb)

example : exD.Inv ∧ ∃ d' r, exD.step (.renameProperty "p1" "p9") = .ok (d', r) ∧
    d'.props = ["p9", "p2"] ∧ d'.bools = exD.bools := ⟨exD_inv, exists_ok_pair_of_decide (by decide +kernel)⟩

/-- `remove_object`: the other objects keep their order, the properties are untouched, every cell
of another object is unchanged; the table loses exactly the row of the removed object -/
theorem C13_remove_other_rows {d d' : Defn} {o : Name} {r : List Name} (h : d.Inv)
    (hs : d.step (.removeObject o) = .ok (d', r)) :
    d'.objs = d.objs.filter (· != o) ∧ d'.props = d.props ∧
    (∀ a b, (a, b) ∈ d'.pairs ↔ (a, b) ∈ d.pairs ∧ a ≠ o) ∧
    (∀ a b, a ≠ o → d'.getItem a b = d.getItem a b) ∧
    d'.bools = ((d.objs.zip d.bools).filter fun x => x.1 != o).map (·.2) ∧
    d'.bools = d.bools.eraseIdx (d.objs.idxOf o) := by
  obtain ⟨ho, _, rfl⟩ := step_removeObject_ok hs
  -- the filter also asks for a listed property; under the invariant every cell has one
  have hc : ∀ a b, (a, b) ∈ (d.pairs.filter fun (o', p) => !(o' == o && d.props.contains p)) ↔
      (a, b) ∈ d.pairs ∧ a ≠ o := by
    intro a b
    rw [mem_removeObj]
    exact ⟨fun ⟨h1, h2⟩ => ⟨h1, fun e => h2 ⟨e, (h.mem h1).2⟩⟩, fun ⟨h1, h2⟩ => ⟨h1, fun e => h2 e.1⟩⟩
  have hb : Defn.bools ⟨d.objs.filter (· != o), d.props,
        d.pairs.filter fun (o', p) => !(o' == o && d.props.contains p)⟩ =
      ((d.objs.zip d.bools).filter fun x => x.1 != o).map (·.2) := by
    rw [Defn.bools, Defn.bools, zip_filter_ne_map]
    refine List.map_congr_left fun a ha => List.map_congr_left fun b _ => contains_eq_of_iff ?_
    rw [hc]
    exact and_iff_left (by simpa using (List.mem_filter.mp ha).2)
  refine ⟨rfl, rfl, hc, fun a b hao => getItem_eq_of_iff (by simp [hao]) Iff.rfl ?_, hb, ?_⟩
  · rw [hc]; exact and_iff_left hao
  · rw [hb]
    exact zip_filter_eraseIdx h.1 (bools_length d).symm

example : exD.Inv ∧ ∃ d' r, exD.step (.removeObject "o1") = .ok (d', r) ∧
    d'.objs = ["o2"] ∧ d'.bools = [[false, true]] := ⟨exD_inv, exists_ok_pair_of_decide (by decide +kernel)⟩

/-- `remove_property`: the column twin -/
theorem C13_remove_other_columns {d d' : Defn} {p : Name} {r : List Name} (h : d.Inv)
    (hs : d.step (.removeProperty p) = .ok (d', r)) :
    d'.props = d.props.filter (· != p) ∧ d'.objs = d.objs ∧
    (∀ a b, (a, b) ∈ d'.pairs ↔ (a, b) ∈ d.pairs ∧ b ≠ p) ∧
    (∀ a b, b ≠ p → d'.getItem a b = d.getItem a b) ∧
    d'.bools = (d.bools.map fun row => ((d.props.zip row).filter fun x => x.1 != p).map (·.2)) ∧
    d'.bools = d.bools.map fun row => row.eraseIdx (d.props.idxOf p) := by
  obtain ⟨e1, e2, e3, e4, _, _⟩ := C13_remove_other_rows h.transposed (step_swap_ok hs)
  simp only [transposed_objs, transposed_props, mem_transposed, getItem_transposed] at e1 e2 e3 e4
  have hb : d'.bools = d.bools.map fun row => ((d.props.zip row).filter fun x => x.1 != p).map (·.2) := by
    simp only [Defn.bools, e1, e2, List.map_map, Function.comp_def, zip_filter_ne_map]
    refine List.map_congr_left fun a _ => List.map_congr_left fun b hb => contains_eq_of_iff ?_
    rw [e3]
    exact and_iff_left (by simpa using (List.mem_filter.mp hb).2)
  refine ⟨e1, e2, fun a b => e3 b a, fun a b => e4 b a, hb, ?_⟩
  rw [hb]
  exact List.map_congr_left fun row hrow => zip_filter_eraseIdx h.2.1 (bools_row_length d row hrow).symm

example : exD.Inv ∧ ∃ d' r, exD.step (.removeProperty "p1") = .ok (d', r) ∧
    d'.props = ["p2"] ∧ d'.bools = [[false], [true]] := ⟨exD_inv, exists_ok_pair_of_decide (by decide +kernel)⟩

/-- adding a property that is not listed gives an all-false column -/
theorem C13_add_fresh_empty_col {d : Defn} {p : Name} (h : d.Inv) (hp : p ∉ d.props) :
    ∃ d', d.step (.addProperty p []) = .ok (d', []) ∧ d'.props = d.props ++ [p] ∧ d'.objs = d.objs ∧
      d'.bools = d.bools.map (· ++ [false]) := by
  refine ⟨_, rfl, uAdd_of_not_mem hp, rfl, ?_⟩
  rw [Defn.bools, uAdd_of_not_mem hp, Defn.bools, List.map_map]
  refine List.map_congr_left fun o _ => (List.map_append).trans (congrArg (_ ++ [·]) ?_)
  exact Bool.eq_false_iff.mpr fun hc => hp (h.mem (List.contains_iff_mem.mp hc)).2

/-- remove a property, add it again: its column is all false -/
theorem C13_readd_empty_col {d d1 d2 : Defn} {p : Name} {r1 r2 : List Name} (h : d.Inv)
    (hs1 : d.step (.removeProperty p) = .ok (d1, r1)) (hs2 : d1.step (.addProperty p []) = .ok (d2, r2)) :
    d2.props = d1.props ++ [p] ∧ d2.objs = d.objs ∧
    d2.bools = d1.bools.map (· ++ [false]) ∧
    ∀ o ∈ d2.objs, d2.getItem o p = .ok false := by
  obtain ⟨e1, e2, _, e4⟩ := C13_readd_empty_row h.transposed (step_swap_ok hs1)
    (step_swap_ok hs2)
  obtain ⟨d', hd', _, _, e3⟩ := C13_add_fresh_empty_col (inv_step (op := .removeProperty p) h trivial hs1)
    (C13_no_residue_removeProperty h hs1).1
  rw [hd'] at hs2
  cases hs2
  exact ⟨e1, e2, e3, fun o ho => (getItem_transposed d2 p o).symm.trans (e4 o ho)⟩

example : ∃ d1 r1 d2 r2, exD.step (.removeProperty "p1") = .ok (d1, r1) ∧
    d1.step (.addProperty "p1" []) = .ok (d2, r2) ∧ d2.bools = [[false, false], [true, false]] :=
  ⟨_, _, _, _, rfl, rfl, by decide +kernel⟩

/-- ... also after an arbitrary history in between -/
theorem C13_readd_empty_col_history {d : Defn} {ops : List Op} {p : Name} (h : d.Inv)
    (hops : ∀ op ∈ ops, op.operandInv) (hp : p ∉ (d.runHistory ops).props) :
    ∃ d', (d.runHistory ops).step (.addProperty p []) = .ok (d', []) ∧
      d'.bools = (d.runHistory ops).bools.map (· ++ [false]) := by
  obtain ⟨d', h1, _, _, h2⟩ := C13_add_fresh_empty_col (C13_inv_history h hops) hp
  exact ⟨d', h1, h2⟩

example : exD.Inv ∧ (∀ op ∈ [Op.removeProperty "p1", Op.setItem "o1" "p2" true], op.operandInv) ∧
    "p1" ∉ (exD.runHistory [.removeProperty "p1", .setItem "o1" "p2" true]).props :=
  ⟨exD_inv, fun op h => by
    simp only [List.mem_cons, List.not_mem_nil, or_false] at h
    rcases h with rfl | rfl <;> trivial, by decide +kernel⟩

end FCA

open FCA in
#print axioms C13_inv_ofTriple
open FCA in
#print axioms C13_inv_step
open FCA in
#print axioms C13_inv_history
open FCA in
#print axioms C13_inv_history_strict
open FCA in
#print axioms C13_bools_shape
open FCA in
#print axioms C13_freshEq_iff
open FCA in
#print axioms C13_fresh_eq
open FCA in
#print axioms C13_residue_visible
open FCA in
#print axioms C13_no_residue_remove
open FCA in
#print axioms C13_no_residue_removeProperty
open FCA in
#print axioms C13_no_residue_renameObject
open FCA in
#print axioms C13_no_residue_renameProperty
open FCA in
#print axioms C13_readd_empty_row
open FCA in
#print axioms C13_readd_empty_row_history
open FCA in
#print axioms C13_append_order
open FCA in
#print axioms C13_append_order_unionUpdate
open FCA in
#print axioms C13_setObject_cells
open FCA in
#print axioms C13_setitem_cells
open FCA in
#print axioms C13_moveObject
open FCA in
#print axioms C13_moveProperty
open FCA in
#print axioms C13_reject_iff
open FCA in
#print axioms C13_reject_class
open FCA in
#print axioms C13_reject_atomic
open FCA in
#print axioms C13_return_none
open FCA in
#print axioms C13_removeEmptyObjects
open FCA in
#print axioms C13_removeEmptyProperties
open FCA in
#print axioms C13_pairs_as_set
open FCA in
#print axioms C13_pairs_as_set_history
open FCA in
#print axioms C13_pairs_as_set_derived
open FCA in
#print axioms C13_rename_keeps_position
open FCA in
#print axioms C13_rename_keeps_position_property
open FCA in
#print axioms C13_remove_other_rows
open FCA in
#print axioms C13_remove_other_columns
open FCA in
#print axioms C13_add_fresh_empty_col
open FCA in
#print axioms C13_readd_empty_col
open FCA in
#print axioms C13_readd_empty_col_history
