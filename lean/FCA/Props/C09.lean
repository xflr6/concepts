import FCA.Proofs.Traversal
/-
C09 — upset / downset traversals yield exactly the filters / ideals, once, in rank order.

`Concept.upset()` / `Lattice.upset_union(cs)` are `iterunion(maximal(cs, properly_subsumes), index,
upper_neighbors)`, `Concept.downset()` / `Lattice.downset_union(cs)` are
`iterunion(maximal(cs, properly_implies), dindex, lower_neighbors)`; concepts are identified with their
position in the lattice (`Concept.index`).
-/
namespace FCA
open FCA.C09

/-! ### `iterunion` over an abstract `key` / `next` (`C09.Reach next`: reflexive transitive closure of `next`) -/

/-- `iterunion` yields exactly what is reachable from the seeds through `next`, each element once, in
strictly increasing `key` order — provided `key` is injective on the reachable elements, strictly
increases along `next` and stays below `N`, out-degrees are at most `D`, and the fuel exceeds
`seeds.length + D * N` (the Python loop has no fuel). -/
theorem C09_iterunion_correct (key : Nat → Nat) (next : Nat → List Nat) (seeds : List Nat) (N D fuel : Nat)
    (inj : ∀ x y, (∃ s ∈ seeds, Reach next s x) → (∃ s ∈ seeds, Reach next s y) → key x = key y → x = y)
    (mono : ∀ x, (∃ s ∈ seeds, Reach next s x) → ∀ d ∈ next x, key x < key d)
    (bound : ∀ x, (∃ s ∈ seeds, Reach next s x) → key x < N)
    (deg : ∀ x, (∃ s ∈ seeds, Reach next s x) → (next x).length ≤ D)
    (hf : seeds.length + D * N < fuel) :
    (iterunion key next fuel seeds).Pairwise (fun a b => key a < key b) ∧
    (iterunion key next fuel seeds).Nodup ∧
    ∀ x, x ∈ iterunion key next fuel seeds ↔ ∃ s ∈ seeds, Reach next s x := by
  obtain ⟨h1, h2⟩ := iterunion_correct key next seeds ⟨inj, mono, bound, deg⟩ fuel hf
  exact ⟨h1, nodup_of_strict h1, h2⟩

/-- no seeds, no output -/
theorem C09_iterunion_nil (key : Nat → Nat) (next : Nat → List Nat) (fuel : Nat) :
    iterunion key next fuel [] = [] := by
  cases fuel <;> simp [iterunion, iterunionLoop, minBy]

/-- Seed lists with the same members (permutations, repeats) give the same output list, whatever the
(sufficient) fuel: the enumeration order of the set in `tools.maximal` is unobservable. -/
theorem C09_perm_invariant (key : Nat → Nat) (next : Nat → List Nat) (seeds seeds' : List Nat)
    (N D fuel fuel' : Nat)
    (inj : ∀ x y, (∃ s ∈ seeds, Reach next s x) → (∃ s ∈ seeds, Reach next s y) → key x = key y → x = y)
    (mono : ∀ x, (∃ s ∈ seeds, Reach next s x) → ∀ d ∈ next x, key x < key d)
    (bound : ∀ x, (∃ s ∈ seeds, Reach next s x) → key x < N)
    (deg : ∀ x, (∃ s ∈ seeds, Reach next s x) → (next x).length ≤ D)
    (hm : ∀ x, x ∈ seeds ↔ x ∈ seeds')
    (hf : seeds.length + D * N < fuel) (hf' : seeds'.length + D * N < fuel') :
    iterunion key next fuel seeds = iterunion key next fuel' seeds' := by
  have H : Hyp key next seeds N D := ⟨inj, mono, bound, deg⟩
  obtain ⟨h1, h2⟩ := iterunion_correct key next seeds H fuel hf
  obtain ⟨h1', h2'⟩ := iterunion_correct key next seeds' (H.congr hm) fuel' hf'
  exact strict_unique h1 h1' (fun x => by rw [h2, h2', R_congr next hm])

/-- strictly sorted lists with equal members are equal -/
theorem C09_sorted_unique (key : Nat → Nat) (l₁ l₂ : List Nat)
    (h₁ : l₁.Pairwise (fun a b => key a < key b)) (h₂ : l₂.Pairwise (fun a b => key a < key b))
    (hm : ∀ x, x ∈ l₁ ↔ x ∈ l₂) : l₁ = l₂ := strict_unique h₁ h₂ hm

/-- `maximalBy cmp l` has no repeats; it keeps exactly the members of `l` that are not `cmp`-related to
any other member; and if `cmp` is a strict partial order on the members of `l`, every member of `l` is
equal to or `cmp`-related to a kept one. -/
theorem C09_maximal (cmp : Nat → Nat → Bool) (l : List Nat) :
    (maximalBy cmp l).Nodup ∧
    (∀ x, x ∈ maximalBy cmp l ↔ x ∈ l ∧ ∀ y ∈ l, y ≠ x → cmp x y = false) ∧
    ((∀ x ∈ l, cmp x x = false) →
     (∀ x ∈ l, ∀ y ∈ l, ∀ z ∈ l, cmp x y = true → cmp y z = true → cmp x z = true) →
     ∀ x ∈ l, ∃ m ∈ maximalBy cmp l, m = x ∨ cmp x m = true) :=
  ⟨maximalBy_nodup cmp l, mem_maximalBy cmp l, maximalBy_dominates cmp⟩

/-- the model's traversals are `iterunion` on the `maximal` seeds (definitional) -/
theorem C09_upsetUnion_def (L : Lattice) (cs : List Nat) :
    upsetUnion L cs = iterunion id L.upperAt (L.travFuel (maximalBy (properlySubsumes L) cs))
      (maximalBy (properlySubsumes L) cs) := rfl

theorem C09_downsetUnion_def (L : Lattice) (cs : List Nat) :
    downsetUnion L cs = iterunion L.dindexAt L.lowerAt (L.travFuel (maximalBy (properlyImplies L) cs))
      (maximalBy (properlyImplies L) cs) := rfl

/-- `maximal(cs, properly_subsumes)` are the members with minimal extent; every member is above one of
them; so the union of the up-sets of the reduced seeds is that of all given concepts.
(No assumption on `L` or `cs`.) -/
theorem C09_maximal_subsumes (L : Lattice) (cs : List Nat) :
    (∀ x, x ∈ maximalBy (properlySubsumes L) cs ↔
      x ∈ cs ∧ ∀ y ∈ cs, ¬ (L.extentAt y ⊆ᵇ L.extentAt x ∧ L.extentAt y ≠ L.extentAt x)) ∧
    (∀ c ∈ cs, ∃ m ∈ maximalBy (properlySubsumes L) cs, L.extentAt m ⊆ᵇ L.extentAt c) ∧
    (∀ e, (∃ m ∈ maximalBy (properlySubsumes L) cs, L.extentAt m ⊆ᵇ e) ↔ ∃ c ∈ cs, L.extentAt c ⊆ᵇ e) :=
  ⟨mem_maximalBy_of_strictOrder (properlySubsumes_iff L) (fun _ h => h.2 rfl) cs,
    fun c hc => (minSeeds_union L cs _).mpr ⟨c, hc, sub_refl _⟩, minSeeds_union L cs⟩

/-- `maximal(cs, properly_implies)` are the members with maximal extent; every member is below one of
them; so the union of the down-sets of the reduced seeds is that of all given concepts. -/
theorem C09_maximal_implies (L : Lattice) (cs : List Nat) :
    (∀ x, x ∈ maximalBy (properlyImplies L) cs ↔
      x ∈ cs ∧ ∀ y ∈ cs, ¬ (L.extentAt x ⊆ᵇ L.extentAt y ∧ L.extentAt x ≠ L.extentAt y)) ∧
    (∀ c ∈ cs, ∃ m ∈ maximalBy (properlyImplies L) cs, L.extentAt c ⊆ᵇ L.extentAt m) ∧
    (∀ e, (∃ m ∈ maximalBy (properlyImplies L) cs, e ⊆ᵇ L.extentAt m) ↔ ∃ c ∈ cs, e ⊆ᵇ L.extentAt c) :=
  ⟨mem_maximalBy_of_strictOrder (properlyImplies_iff L) (fun _ h => h.2 rfl) cs,
    fun c hc => (maxSeeds_union L cs _).mpr ⟨c, hc, sub_refl _⟩, maxSeeds_union L cs⟩

/-- chains of upper (lower) neighbors starting at a concept reach exactly the concepts above (below) it -/
theorem C09_reach (K : Ctx) (h : K.WF) (c d : Nat) (hc : c < (mkLattice K).length) :
    (Reach (mkLattice K).upperAt c d ↔
      d < (mkLattice K).length ∧ (mkLattice K).extentAt c ⊆ᵇ (mkLattice K).extentAt d) ∧
    (Reach (mkLattice K).lowerAt c d ↔
      d < (mkLattice K).length ∧ (mkLattice K).extentAt d ⊆ᵇ (mkLattice K).extentAt c) :=
  ⟨reach_upper_iff (mkLattice_spec h) hc d, reach_lower_iff (mkLattice_spec h) hc d⟩

/-- `lattice.upset_union(cs)`: exactly the concepts above some member of `cs`, each once, in strictly
increasing position (= `Concept.index`) order; `cs` may contain repeats and comparable members. -/
theorem C09_upset_union (K : Ctx) (h : K.WF) (cs : List Nat) (hv : ∀ c ∈ cs, c < (mkLattice K).length) :
    (upsetUnion (mkLattice K) cs).Pairwise (· < ·) ∧
    (upsetUnion (mkLattice K) cs).Nodup ∧
    ∀ d, d ∈ upsetUnion (mkLattice K) cs ↔
      d < (mkLattice K).length ∧ ∃ c ∈ cs, (mkLattice K).extentAt c ⊆ᵇ (mkLattice K).extentAt d := by
  obtain ⟨h1, h2⟩ := upsetUnion_spec (mkLattice_spec h) hv
  exact ⟨h1, nodup_of_strict (key := id) h1, h2⟩

/-- `lattice.downset_union(cs)`: exactly the concepts below some member of `cs`, each once, in strictly
increasing `Concept.dindex` order. -/
theorem C09_downset_union (K : Ctx) (h : K.WF) (cs : List Nat) (hv : ∀ c ∈ cs, c < (mkLattice K).length) :
    (downsetUnion (mkLattice K) cs).Pairwise
      (fun a b => (mkLattice K).dindexAt a < (mkLattice K).dindexAt b) ∧
    (downsetUnion (mkLattice K) cs).Nodup ∧
    ∀ d, d ∈ downsetUnion (mkLattice K) cs ↔
      d < (mkLattice K).length ∧ ∃ c ∈ cs, (mkLattice K).extentAt d ⊆ᵇ (mkLattice K).extentAt c := by
  obtain ⟨h1, h2⟩ := downsetUnion_spec (mkLattice_spec h) hv
  exact ⟨h1, nodup_of_strict h1, h2⟩

/-- `concept.upset()`: exactly the concepts `≥ c`, each once, in increasing index order -/
theorem C09_upset (K : Ctx) (h : K.WF) (c : Nat) (hc : c < (mkLattice K).length) :
    (upsetUnion (mkLattice K) [c]).Pairwise (· < ·) ∧
    (upsetUnion (mkLattice K) [c]).Nodup ∧
    ∀ d, d ∈ upsetUnion (mkLattice K) [c] ↔
      d < (mkLattice K).length ∧ (mkLattice K).extentAt c ⊆ᵇ (mkLattice K).extentAt d := by
  obtain ⟨h1, h2, h3⟩ := C09_upset_union K h [c] (by simpa using hc)
  exact ⟨h1, h2, fun d => by rw [h3]; simp⟩

/-- `concept.downset()`: exactly the concepts `≤ c`, each once, in increasing dindex order -/
theorem C09_downset (K : Ctx) (h : K.WF) (c : Nat) (hc : c < (mkLattice K).length) :
    (downsetUnion (mkLattice K) [c]).Pairwise
      (fun a b => (mkLattice K).dindexAt a < (mkLattice K).dindexAt b) ∧
    (downsetUnion (mkLattice K) [c]).Nodup ∧
    ∀ d, d ∈ downsetUnion (mkLattice K) [c] ↔
      d < (mkLattice K).length ∧ (mkLattice K).extentAt d ⊆ᵇ (mkLattice K).extentAt c := by
  obtain ⟨h1, h2, h3⟩ := C09_downset_union K h [c] (by simpa using hc)
  exact ⟨h1, h2, fun d => by rw [h3]; simp⟩

/-- positions are `Concept.index`, and `dindexAt` reads `Concept.dindex`: the orders above are the
index / dindex orders of the concepts -/
theorem C09_index_is_position (K : Ctx) (h : K.WF) (k : Nat) (c : LConcept) (hk : (mkLattice K)[k]? = some c) :
    c.index = k ∧ (mkLattice K).dindexAt k = c.dindex ∧ (mkLattice K).extentAt k = c.extent :=
  ⟨(mkLattice_spec h).index hk, Lattice.dindexAt_get hk, Lattice.extentAt_get hk⟩

/-- the empty collection yields nothing (any lattice) -/
theorem C09_empty (L : Lattice) : upsetUnion L [] = [] ∧ downsetUnion L [] = [] := by
  rw [C09_upsetUnion_def, C09_downsetUnion_def, maximalBy_nil, maximalBy_nil]
  exact ⟨C09_iterunion_nil _ _ _, C09_iterunion_nil _ _ _⟩

/-- `Concept.upset()` / `downset()` call `iterunion([self], …)` directly, without `tools.maximal`: for a
single seed the reduction is the identity, so the single-concept traversals are the union traversals -/
theorem C09_single_seed (L : Lattice) (c : Nat) :
    upsetUnion L [c] = iterunion id L.upperAt (L.travFuel [c]) [c] ∧
    downsetUnion L [c] = iterunion L.dindexAt L.lowerAt (L.travFuel [c]) [c] := by
  rw [C09_upsetUnion_def, C09_downsetUnion_def, maximalBy_singleton, maximalBy_singleton]
  exact ⟨rfl, rfl⟩

/-- the union traversals only depend on the *set* of given concepts -/
theorem C09_union_congr (K : Ctx) (h : K.WF) (cs cs' : List Nat) (hv : ∀ c ∈ cs, c < (mkLattice K).length)
    (hm : ∀ x, x ∈ cs ↔ x ∈ cs') :
    upsetUnion (mkLattice K) cs = upsetUnion (mkLattice K) cs' ∧
    downsetUnion (mkLattice K) cs = downsetUnion (mkLattice K) cs' := by
  have hv' : ∀ c ∈ cs', c < (mkLattice K).length := fun c hc => hv c ((hm c).mpr hc)
  obtain ⟨u1, u2⟩ := upsetUnion_spec (mkLattice_spec h) hv
  obtain ⟨u1', u2'⟩ := upsetUnion_spec (mkLattice_spec h) hv'
  obtain ⟨d1, d2⟩ := downsetUnion_spec (mkLattice_spec h) hv
  obtain ⟨d1', d2'⟩ := downsetUnion_spec (mkLattice_spec h) hv'
  have congr : ∀ {P : Nat → Prop}, (∃ c ∈ cs, P c) ↔ ∃ c ∈ cs', P c :=
    exists_congr fun c => and_congr_left fun _ => hm c
  exact ⟨strict_unique (key := id) u1 u1' fun x => by rw [u2, u2']; exact and_congr_right fun _ => congr,
    strict_unique d1 d1' fun x => by rw [d2, d2']; exact and_congr_right fun _ => congr⟩

/-- the union traversal is the union of the single traversals -/
theorem C09_union_is_union (K : Ctx) (h : K.WF) (cs : List Nat) (hv : ∀ c ∈ cs, c < (mkLattice K).length) (d : Nat) :
    (d ∈ upsetUnion (mkLattice K) cs ↔ ∃ c ∈ cs, d ∈ upsetUnion (mkLattice K) [c]) ∧
    (d ∈ downsetUnion (mkLattice K) cs ↔ ∃ c ∈ cs, d ∈ downsetUnion (mkLattice K) [c]) := by
  rw [(C09_upset_union K h cs hv).2.2, (C09_downset_union K h cs hv).2.2]
  have key : ∀ {A : Prop} {P Q : Nat → Prop}, (∀ c ∈ cs, (Q c ↔ A ∧ P c)) → ((A ∧ ∃ c ∈ cs, P c) ↔ ∃ c ∈ cs, Q c) :=
    fun hq => ⟨fun ⟨ha, c, hc, hp⟩ => ⟨c, hc, (hq c hc).mpr ⟨ha, hp⟩⟩,
      fun ⟨c, hc, hq'⟩ => ⟨((hq c hc).mp hq').1, c, hc, ((hq c hc).mp hq').2⟩⟩
  exact ⟨key fun c hc => (C09_upset K h c (hv c hc)).2.2 d, key fun c hc => (C09_downset K h c (hv c hc)).2.2 d⟩

def C09_exK : Ctx := mkCtx 3 3 #[0b011, 0b001, 0b110]
theorem C09_exK_WF : C09_exK.WF := mkCtx_WF rfl (by decide)

/-- extents in iteration order, `dindex`, neighbor links -/
example : (mkLattice C09_exK).map (·.extent) = [0, 1, 4, 3, 5, 7] ∧
    (mkLattice C09_exK).map (·.dindex) = [5, 3, 4, 1, 2, 0] ∧
    (mkLattice C09_exK).map (·.upper) = [[1, 2], [3, 4], [4], [5], [5], []] ∧
    (mkLattice C09_exK).map (·.lower) = [[], [0], [0], [1], [1, 2], [3, 4]] := by
  rw [C09_exK, exK_lattice]; decide +kernel
/-- valid positions, with a repeat (3, 3) and comparable members (1 < 3) -/
example : ∀ c ∈ [3, 1, 2, 3], c < (mkLattice C09_exK).length := by
  rw [C09_exK, exK_lattice]; decide +kernel
/-- the hypotheses of `C09_iterunion_correct` / `C09_perm_invariant` are satisfiable with non-trivial data -/
example : Hyp id (mkLattice C09_exK).upperAt [1, 2, 1] (mkLattice C09_exK).length (mkLattice C09_exK).length :=
  hyp_upper (mkLattice_spec C09_exK_WF) (by rw [C09_exK, exK_lattice]; decide +kernel)
example : Hyp (mkLattice C09_exK).dindexAt (mkLattice C09_exK).lowerAt [3, 2] (mkLattice C09_exK).length
    (mkLattice C09_exK).length :=
  hyp_lower (mkLattice_spec C09_exK_WF) (by rw [C09_exK, exK_lattice]; decide +kernel)
example : iterunion id (mkLattice C09_exK).upperAt 40 [1, 2, 1] = [1, 2, 3, 4, 5] ∧
    iterunion id (mkLattice C09_exK).upperAt 40 [2, 1] = [1, 2, 3, 4, 5] := by
  rw [C09_exK, exK_lattice]; decide +kernel
example : maximalBy (properlySubsumes (mkLattice C09_exK)) [3, 1, 2, 3] = [1, 2] ∧
    maximalBy (properlyImplies (mkLattice C09_exK)) [3, 1, 2, 3] = [3, 2] := by
  rw [C09_exK, exK_lattice]; decide +kernel
example : upsetUnion (mkLattice C09_exK) [1] = [1, 3, 4, 5] ∧
    downsetUnion (mkLattice C09_exK) [4] = [4, 1, 2, 0] ∧
    upsetUnion (mkLattice C09_exK) [3, 1, 2, 3] = [1, 2, 3, 4, 5] ∧
    downsetUnion (mkLattice C09_exK) [3, 1, 2, 3] = [3, 1, 2, 0] ∧
    downsetUnion (mkLattice C09_exK) [3, 4, 1, 3] = [3, 4, 1, 2, 0] := by
  rw [C09_exK, exK_lattice]; decide +kernel

end FCA

#print axioms FCA.C09_iterunion_correct
#print axioms FCA.C09_iterunion_nil
#print axioms FCA.C09_perm_invariant
#print axioms FCA.C09_sorted_unique
#print axioms FCA.C09_maximal
#print axioms FCA.C09_maximal_subsumes
#print axioms FCA.C09_maximal_implies
#print axioms FCA.C09_reach
#print axioms FCA.C09_upset
#print axioms FCA.C09_downset
#print axioms FCA.C09_upset_union
#print axioms FCA.C09_downset_union
#print axioms FCA.C09_empty
#print axioms FCA.C09_index_is_position
#print axioms FCA.C09_union_congr
#print axioms FCA.C09_union_is_union
