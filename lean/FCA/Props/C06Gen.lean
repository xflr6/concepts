import FCA.Generated.SortKeys
import FCA.Generated.Extremes
import FCA.Model.Misc
import FCA.Model.Lattice
/-
C06 over the regenerated source: which order of the extents (`shortlex` / `longlex`) `Lattice.__init__` and `_init` of the
current `lattices.py` use to sort the upper neighbors, the lower neighbors and the concepts for `dindex`. Assembling the
lattice with the orders *named by the source* is the model's `assemble` — about which `C06_*` are proved. Likewise the list
positions that `Lattice.infimum` / `supremum` return and what `atoms` returns (`C06_generated_extremes`).
-/
namespace FCA

/-- the numeric key of a bitset order, by the name of the `bitsets` method -/
def C06_orderOfName (n : Nat) : String → Option (Nat → Nat)
  | "shortlex" => some (shortlexKey n)
  | "longlex" => some (longlexKey n)
  | _ => none

/-- `assemble` with the three sort orders looked up in a configuration `(what is sorted, order name)` -/
def C06_assembleCfg (K : Ctx) (recs : List Rec) (cfg : List (String × String)) : Option Lattice :=
  match (cfg.lookup "upper_neighbors").bind (C06_orderOfName K.n), (cfg.lookup "lower_neighbors").bind (C06_orderOfName K.n),
        (cfg.lookup "dindex").bind (C06_orderOfName K.n) with
  | some upKey, some loKey, some dKey =>
    let extents := recs.map (·.extent)
    let dorder := sortBy (fun i => dKey (extents.getD i 0)) (List.range recs.length)
    let uppers := recs.map fun r => sortBy (fun i => upKey (extents.getD i 0)) (toIndexes extents r.upper)
    let atoms := uppers.headD []
    some ((List.range recs.length).filterMap fun k =>
      match recs[k]? with
      | none => none
      | some r =>
        some { extent := r.extent, intent := r.intent
               upper := uppers.getD k []
               lower := sortBy (fun i => loKey (extents.getD i 0)) (toIndexes extents r.lower)
               index := k
               dindex := (indexOf? k dorder).getD 0
               atoms := atoms.filter fun a => r.extent ||| extents.getD a 0 == r.extent
               objects := objectLabels K r.extent
               properties := propertyLabels K r.extent })
  | _, _, _ => none

/-- with the sort orders the current source names, `Lattice.__init__` + `_init` is the model's `assemble` -/
theorem C06_generated_assemble (K : Ctx) (recs : List Rec) :
    C06_assembleCfg K recs Generated.init_sort_cfg = some (assemble K recs) := rfl

/-- hence `context.lattice` -/
theorem C06_generated_mkLattice (K : Ctx) :
    C06_assembleCfg K (lindigLattice K) Generated.init_sort_cfg = some (mkLattice K) :=
  C06_generated_assemble K _

/-- Python's `l[i]` for a possibly negative constant position -/
def C06_pyIndex (L : Lattice) (i : Int) : Option LConcept :=
  if i < 0 then (if (L.length : Int) + i < 0 then none else L[((L.length : Int) + i).toNat]?) else L[i.toNat]?

/-- the properties of the current source return the first and the last concept of the iteration order, and the atoms are the
upper neighbors of the first — the model's `Lattice.infimum`, `Lattice.supremum`, `Lattice.atomsOf` (`C06_infimum`, `C06_supremum`,
`C06_atoms` say what these are) -/
theorem C06_generated_extremes (L : Lattice) (h : L ≠ []) :
    C06_pyIndex L Generated.infimum_pos = L.infimum ∧ C06_pyIndex L Generated.supremum_pos = L.supremum ∧
    Generated.atoms_cfg = ("infimum", "upper_neighbors") ∧ L.atomsOf = ((L.infimum).map (·.upper)).getD [] := by
  have hl : 0 < L.length := List.length_pos_iff.mpr h
  refine ⟨rfl, ?_, rfl, ?_⟩
  · unfold C06_pyIndex Generated.supremum_pos Lattice.supremum
    rw [if_pos (by decide), if_neg (by omega), show ((L.length : Int) + -1).toNat = L.length - 1 from Int.toNat_sub L.length 1]
  · simp only [Lattice.atomsOf, Lattice.upperAt, Lattice.infimum]

end FCA
#print axioms FCA.C06_generated_assemble
#print axioms FCA.C06_generated_mkLattice
#print axioms FCA.C06_generated_extremes
