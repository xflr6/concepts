import FCA.Props.C01Gen
/-
C15 over the regenerated source: the transposition clause stated for the derivation loops translated from the current
`matrices.py` — the derivations and closures of the transposed context, as the source computes them, are the closures of the other side of
the original context; and a pair is a formal concept for the regenerated derivations exactly when it is one in the model (the
notion all invariance theorems `C15_*` are about).
-/
namespace FCA

/-- derivations of the transposed table by the regenerated loops = the other side's derivations of the original -/
theorem C15_generated_transpose (K : Ctx) (A B : Nat) :
    Generated.prime K.transpose.rows K.transpose.cols (full K.transpose.m) (full K.transpose.n) B = K.extentOf B ∧
    Generated.prime K.transpose.cols K.transpose.rows (full K.transpose.n) (full K.transpose.m) A = K.intentOf A ∧
    Generated.doubleprime K.transpose.rows K.transpose.cols (full K.transpose.m) (full K.transpose.n) B = K.dpProp B ∧
    Generated.doubleprime K.transpose.cols K.transpose.rows (full K.transpose.n) (full K.transpose.m) A = K.dpObj A := by
  obtain ⟨h1, _, h3, h4, _, h6⟩ := C01_generated_closures K A B
  exact ⟨h4, h1, h6, h3⟩

/-- `(A, B)` is a formal concept for the derivation loops of the current source iff it is one of the model -/
theorem C15_generated_isConcept (K : Ctx) (A B : Nat) :
    (Generated.prime K.rows K.cols (full K.m) (full K.n) A = B ∧ Generated.prime K.cols K.rows (full K.n) (full K.m) B = A) ↔
      (K.intentOf A = B ∧ K.extentOf B = A) := by
  obtain ⟨h1, _, _, h4, _, _⟩ := C01_generated_closures K A B
  rw [h1, h4]

end FCA
#print axioms FCA.C15_generated_transpose
#print axioms FCA.C15_generated_isConcept
