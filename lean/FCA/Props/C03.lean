import FCA.Proofs.Lindig
import FCA.Proofs.Assemble
import Mathlib.Data.Finset.Card
/-
C03 — The lattice contains exactly the formal concepts of the context, once each.

`lindigLattice K` is the list of records `lindig.lattice` yields (what `Lattice.__init__` turns into
`Concept` objects one by one, see `assemble`).
-/
namespace FCA

/-- nothing else: every yielded pair is a formal concept -/
theorem C03_sound (K : Ctx) (h : K.WF) (r : Rec) (hr : r ∈ lindigLattice K) : isConcept K r.extent r.intent := by
  have S := lindigLattice_spec h
  rw [isConcept_iff_closed]
  exact ⟨S.closed hr, S.intent r hr⟩

/-- every pair `(A, B)` with `A' = B` and `B' = A` is yielded -/
theorem C03_complete (K : Ctx) (h : K.WF) (A B : Nat) (hc : isConcept K A B) :
    ∃ r ∈ lindigLattice K, r.extent = A ∧ r.intent = B := by
  have S := lindigLattice_spec h
  obtain ⟨hcl, hB⟩ := isConcept_iff_closed.mp hc
  obtain ⟨r, hr, rfl⟩ := List.mem_map.mp ((S.mem A).mpr hcl)
  exact ⟨r, hr, rfl, by rw [S.intent r hr, hB]⟩

/-- no pair repeated -/
theorem C03_nodup (K : Ctx) (h : K.WF) : ((lindigLattice K).map (·.extent)).Nodup :=
  (lindigLattice_spec h).nodup

/-- `len(lattice)` is the number of closed object sets -/
theorem C03_len (K : Ctx) (h : K.WF) :
    (lindigLattice K).length =
      (@Finset.filter _ (fun A => closedObj K A) (Classical.decPred _) (Finset.range (2 ^ K.n))).card := by
  classical
  have S := lindigLattice_spec h
  have hnd := C03_nodup K h
  rw [← List.length_map (f := (·.extent)), ← List.toFinset_card_of_nodup hnd]
  congr 1
  ext A
  simp only [List.mem_toFinset, S.mem, Finset.mem_filter, Finset.mem_range]
  exact ⟨fun hA => ⟨bounded_iff_lt.mp hA.1, hA⟩, fun hA => hA.2⟩

/-- the bottom (closure of the empty object set) and the top (all objects) are always present -/
theorem C03_bottom_top (K : Ctx) (h : K.WF) :
    K.doubleObj 0 ∈ (lindigLattice K).map (·.extent) ∧ full K.n ∈ (lindigLattice K).map (·.extent) := by
  have S := lindigLattice_spec h
  exact ⟨(S.mem _).mpr (bot_closed h), (S.mem _).mpr (full_closed h)⟩

/-- a table that is all crosses has a one-element lattice -/
theorem C03_all_crosses (K : Ctx) (h : K.WF) (hn : 0 < K.n) (hall : ∀ i j, i < K.n → j < K.m → K.has i j) :
    (lindigLattice K).length = 1 := by
  have S := lindigLattice_spec h
  -- the least closed set is already everything
  have hbot : full K.n ⊆ᵇ K.doubleObj 0 := fun i hi =>
    (mem_extentOf h).mpr ⟨mem_full.mp hi, fun j hj => hall i j (mem_full.mp hi) (mem_intentOf.mp hj).1⟩
  have hall' : ∀ x ∈ (lindigLattice K).map (·.extent), x = full K.n := fun x hx =>
    have hx := (S.mem x).mp hx
    sub_antisymm (bounded_iff_sub_full.mp hx.1) (sub_trans hbot (bot_least hx))
  -- a list without repeats whose entries are all the same has at most one
  have hle := List.nodup_replicate.mp (List.eq_replicate_of_mem hall' ▸ S.nodup)
  have hpos := List.length_pos_of_mem (C03_bottom_top K h).1
  rw [List.length_map] at hle hpos
  exact le_antisymm hle hpos

/-- `Lattice.__init__` turns the yielded records into concepts one by one: `iter(context.lattice)` has
exactly the (extent, intent) pairs of the generator, in the same order — so all of the above holds
for the lattice object, and `len(lattice)` is the number of records -/
theorem C03_lattice_pairs (K : Ctx) :
    (mkLattice K).map (fun c => (c.extent, c.intent)) = (lindigLattice K).map (fun r => (r.extent, r.intent)) ∧
    (mkLattice K).length = (lindigLattice K).length :=
  ⟨assemble_pairs K _, assemble_length K _⟩

theorem C03_lattice_iff (K : Ctx) (h : K.WF) (A B : Nat) :
    (A, B) ∈ (mkLattice K).map (fun c => (c.extent, c.intent)) ↔ isConcept K A B := by
  rw [(C03_lattice_pairs K).1, List.mem_map]
  constructor
  · rintro ⟨r, hr, ⟨⟩⟩
    exact C03_sound K h r hr
  · intro hc
    obtain ⟨r, hr, rfl, rfl⟩ := C03_complete K h A B hc
    exact ⟨r, hr, rfl⟩

/-- no pair repeated in `iter(lattice)` -/
theorem C03_lattice_nodup (K : Ctx) (h : K.WF) : ((mkLattice K).map fun c => (c.extent, c.intent)).Nodup := by
  rw [(C03_lattice_pairs K).1]
  refine List.Nodup.of_map Prod.fst ?_
  rw [List.map_map]
  exact C03_nodup K h

/-- `len(lattice)` is the number of formal concepts (= closed object sets) -/
theorem C03_lattice_len (K : Ctx) (h : K.WF) :
    (mkLattice K).length =
      (@Finset.filter _ (fun A => closedObj K A) (Classical.decPred _) (Finset.range (2 ^ K.n))).card := by
  rw [(C03_lattice_pairs K).2]; exact C03_len K h

/-- the bottom concept has the least extent -/
theorem C03_bottom_least (K : Ctx) (h : K.WF) (A B : Nat) (hc : isConcept K A B) : K.doubleObj 0 ⊆ᵇ A :=
  bot_least (isConcept_iff_closed.mp hc).1

def C03_exK : Ctx := mkCtx 3 3 #[0b011, 0b001, 0b110]
theorem C03_exK_WF : C03_exK.WF := mkCtx_WF rfl (by intro i hi; interval_cases i <;> decide)
example : ((lindigLattice C03_exK).map (·.extent)).Nodup := C03_nodup _ C03_exK_WF
example : (lindigLattice C03_exK).map (fun r => (r.extent, r.intent)) = [(0, 7), (1, 3), (4, 6), (3, 1), (5, 2), (7, 0)] := by
  decide +kernel

end FCA
#print axioms FCA.C03_sound
#print axioms FCA.C03_complete
#print axioms FCA.C03_nodup
#print axioms FCA.C03_len
