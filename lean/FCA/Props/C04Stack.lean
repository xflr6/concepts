import FCA.Proofs.FcboStack
import Mathlib.Algebra.Order.BigOperators.Group.List
/-
C04 for the explicit stack and the shared `next_property_sets` list of `fast_generate_from` / `fcbo_dual`:
the small-step machine of `Model/FcboStack.lean` (heap of lists, stack of `(concept, index, reference)`, one step
per `while stack:` iteration) yields exactly what the recursive model `fcboNode` / `fcbo` / `fcboDual` yields.
No well-formedness of the context is needed: the argument is about control flow and aliasing only.
-/
namespace FCA

/-- the recursive model needs depth fuel `width - idx` only; more does not change it -/
theorem C04_stack_depth_fuel (S : Side) (f1 f2 : Nat) (nd : FNode) (idx : Nat) (sets : Array Nat)
    (h1 : S.width - idx ≤ f1) (h2 : S.width - idx ≤ f2) :
    fcboNode S f1 nd idx sets = fcboNode S f2 nd idx sets := by
  -- with no candidate left the loop pushes nothing
  have leaf : ∀ (f : Nat) (nd : FNode) (idx : Nat) (sets : Array Nat), S.width - idx = 0 →
      fcboNode S (f + 1) nd idx sets = [nd] := by
    intro f nd idx sets h
    rw [fcboNode_succ_eq, h]
    simp [fcboInner]
  induction f1 generalizing f2 nd idx sets with
  | zero =>
    cases f2 with
    | zero => rfl
    | succ f2 => exact (leaf f2 nd idx sets (Nat.le_zero.mp h1)).symm
  | succ f1 ih =>
    cases f2 with
    | zero => exact leaf f1 nd idx sets (Nat.le_zero.mp h2)
    | succ f2 =>
      rw [fcboNode_succ_eq, fcboNode_succ_eq]
      refine congrArg (nd :: ·) ?_
      split_ifs
      · rfl
      · refine List.flatMap_congr fun p hp => ?_
        have := (fcboInner_mem_ge (List.mem_reverse.1 hp)).1
        exact ih f2 _ _ _ (by omega) (by omega)

/-- the subtree of a node with index `idx` has at most `2 ^ (width - idx)` nodes (for every depth fuel) -/
theorem C04_stack_length_le (S : Side) (f : Nat) (nd : FNode) (idx : Nat) (sets : Array Nat) :
    (fcboNode S f nd idx sets).length ≤ 2 ^ (S.width - idx) := by
  induction f generalizing nd idx sets with
  | zero => exact Nat.one_le_two_pow
  | succ f ih =>
    rw [fcboNode_succ_eq]
    split_ifs
    · exact Nat.one_le_two_pow
    · -- a child for candidate `j` heads at most `2 ^ (width - (j + 1))` nodes; the candidates are among `idx .. width - 1`
      rw [List.length_cons, List.length_flatMap]
      have hch := List.sum_le_sum (l := (fcboInner S nd (List.range' idx (S.width - idx)).reverse sets []).1.reverse)
        (g := (fun j => 2 ^ (S.width - (j + 1))) ∘ Prod.fst) fun p _ =>
          ih p.2 (p.1 + 1) (fcboInner S nd (List.range' idx (S.width - idx)).reverse sets []).2
      have hsub := ((fcboInner_sublist S nd (List.range' idx (S.width - idx)).reverse sets).reverse.map
        fun j => 2 ^ (S.width - (j + 1))).sum_le_sum fun _ _ => Nat.zero_le _
      rw [List.reverse_reverse, ← List.map_reverse, List.map_map] at hsub
      exact sum_pow_range' S.width idx ▸ Nat.succ_le_succ (hch.trans hsub)

/-- the inner `for` loop on the machine (reads and writes through the reference `ref`, pushes carry `ref`) is
`fcboInner` on the contents of the cell: the cell ends with `fcboInner`'s final list, no other cell changes, and
the pushed entries are `fcboInner`'s children, in push order, all with the SAME reference -/
theorem C04_stack_inner (S : Side) (nd : FNode) (ref : Nat) (js : List Nat) (heap : SHeap) (st : List SEntry)
    (href : ref < heap.length) :
    stackInner S nd ref js heap st =
      (heap.set ref (fcboInner S nd js (heap.read ref) []).2,
       st ++ (fcboInner S nd js (heap.read ref) []).1.map (pushed ref)) := by
  induction js generalizing heap st with
  | nil => simp [stackInner, fcboInner, SHeap.set_read_self]
  | cons j js ih =>
    rw [stackInner_cons, ih _ _ (by simpa using href), fcboInner_cons_nil, SHeap.read_set_self href, List.set_set]
    simp

example : (3 : Nat) < ([#[0], #[1], #[2], #[5, 6]] : SHeap).length := by decide

/-- one iteration of `while stack:` on a stack whose last entry is `(nd, idx, ref)`: `nd` is yielded; a leaf just
pops; otherwise ONE new cell is allocated, it holds the final list of the parent's loop, and the children are
appended with the new cell's address -/
theorem C04_stack_step (S : Side) (heap : SHeap) (st : List SEntry) (nd : FNode) (idx ref : Nat) :
    stackStep S heap (st ++ [(nd, idx, ref)]) =
      some (nd,
        if idx = S.width ∨ nd.other = 0 then (heap, st) else
          (heap ++ [(fcboInner S nd (List.range' idx (S.width - idx)).reverse (heap.read ref) []).2],
           st ++ (fcboInner S nd (List.range' idx (S.width - idx)).reverse (heap.read ref) []).1.map
             (pushed heap.length))) := by
  unfold stackStep
  simp only [List.getLast?_append, List.getLast?_singleton, Option.some_or, List.dropLast_concat]
  split_ifs
  · rfl
  · simp only [SHeap.copy]
    rw [C04_stack_inner S nd heap.length _ _ _ (List.length_append ▸ Nat.lt_succ_self _)]
    simp only [SHeap.read_append_length, SHeap.set_append_length]

theorem stackRun_concat (S : Side) (fuel : Nat) (heap : SHeap) (st : List SEntry) (nd : FNode) (idx ref : Nat) :
    stackRun S (fuel + 1) heap (st ++ [(nd, idx, ref)]) =
      nd :: stackRun S fuel (stackNext S heap st nd idx ref).1 (stackNext S heap st nd idx ref).2 := by
  rw [stackRun, C04_stack_step]; rfl

theorem stackAfter_concat (S : Side) (fuel : Nat) (heap : SHeap) (st : List SEntry) (nd : FNode) (idx ref : Nat) :
    stackAfter S (fuel + 1) heap (st ++ [(nd, idx, ref)]) =
      stackAfter S fuel (stackNext S heap st nd idx ref).1 (stackNext S heap st nd idx ref).2 := by
  rw [stackAfter, C04_stack_step]; rfl

/-- what popping an entry and pushing its children keeps, a run keeps -/
theorem stackAfter_invariant (S : Side) {P : SHeap → List SEntry → Prop}
    (hnext : ∀ heap st nd idx ref, P heap (st ++ [(nd, idx, ref)]) →
      P (stackNext S heap st nd idx ref).1 (stackNext S heap st nd idx ref).2)
    (k : Nat) {heap : SHeap} {st : List SEntry} (h : P heap st) :
    P (stackAfter S k heap st).1 (stackAfter S k heap st).2 := by
  induction k generalizing heap st with
  | zero => exact h
  | succ k ih =>
    rcases List.eq_nil_or_concat st with rfl | ⟨st0, ⟨nd, idx, ref⟩, rfl⟩
    · rwa [stackAfter_nil]
    · rw [List.concat_eq_append] at h ⊢
      rw [stackAfter_concat]
      exact ih (hnext _ _ _ _ _ h)

/-- a step never modifies an existing cell (it only allocates): the old heap is a prefix of the new one -/
theorem C04_stack_frame (S : Side) (k : Nat) (heap : SHeap) (st : List SEntry) :
    heap <+: (stackAfter S k heap st).1 ∧
    ∀ r, r < heap.length → (stackAfter S k heap st).1.read r = heap.read r := by
  have h : heap <+: (stackAfter S k heap st).1 :=
    stackAfter_invariant S (P := fun heap' _ => heap <+: heap')
      (fun _ _ _ _ _ hp => hp.trans (stackNext_prefix ..)) k (List.prefix_refl heap)
  exact ⟨h, fun _ hr => SHeap.read_of_prefix h hr⟩

/-- references on the stack stay inside the heap along every run -/
theorem C04_stack_valid (S : Side) (k : Nat) (heap : SHeap) (st : List SEntry) (hv : SValid heap st) :
    SValid (stackAfter S k heap st).1 (stackAfter S k heap st).2 :=
  stackAfter_invariant S (fun _ _ nd idx ref hv => hv.of_concat.next S nd idx ref) k hv

/-- After the step of a non-leaf parent `(nd, idx, ref)`, every child was pushed with the address `heap.length` of
the parent's `next_property_sets`; that cell holds `sets'` = the second component of `fcboInner` (the list after
the parent's whole loop), and it still holds `sets'` after any number `k` of further steps. In particular, whenever
a later state has such a child `(c, j, heap.length)` on top of its stack, the step that pops it copies exactly
`sets'`: its own loop is `fcboInner … sets'`. -/
theorem C04_stack_child_sees_final (S : Side) (heap : SHeap) (st : List SEntry) (nd : FNode) (idx ref : Nat)
    (hnonleaf : ¬ (idx = S.width ∨ nd.other = 0)) :
    let children := (fcboInner S nd (List.range' idx (S.width - idx)).reverse (heap.read ref) []).1
    let sets' := (fcboInner S nd (List.range' idx (S.width - idx)).reverse (heap.read ref) []).2
    ∃ heap' st', stackStep S heap (st ++ [(nd, idx, ref)]) = some (nd, heap', st') ∧
      st' = st ++ children.map (pushed heap.length) ∧
      heap'.read heap.length = sets' ∧
      (∀ k, (stackAfter S k heap' st').1.read heap.length = sets') ∧
      ∀ k heap'' st'' c j, stackAfter S k heap' st' = (heap'', st'' ++ [(c, j, heap.length)]) →
        heap''.read heap.length = sets' ∧
        stackStep S heap'' (st'' ++ [(c, j, heap.length)]) =
          some (c,
            if j = S.width ∨ c.other = 0 then (heap'', st'') else
              (heap'' ++ [(fcboInner S c (List.range' j (S.width - j)).reverse sets' []).2],
               st'' ++ (fcboInner S c (List.range' j (S.width - j)).reverse sets' []).1.map
                 (pushed heap''.length))) := by
  intro children sets'
  have keep : ∀ k, (stackAfter S k (heap ++ [sets']) (st ++ children.map (pushed heap.length))).1.read heap.length =
      sets' := fun k =>
    ((C04_stack_frame S k _ _).2 heap.length (List.length_append ▸ Nat.lt_succ_self _)).trans (SHeap.read_append_length _ _)
  refine ⟨heap ++ [sets'], st ++ children.map (pushed heap.length), ?_, rfl, SHeap.read_append_length _ _, keep, ?_⟩
  · rw [C04_stack_step, if_neg hnonleaf]
  · intro k heap'' st'' c j hk
    have h1 : heap''.read heap.length = sets' := by have := keep k; rwa [hk] at this
    exact ⟨h1, by rw [C04_stack_step, h1]⟩

theorem denot_concat {S : Side} {heap : SHeap} {st : List SEntry} {nd : FNode} {idx ref : Nat}
    (hv : SValid heap st) :
    denot S heap (st ++ [(nd, idx, ref)]) =
      nd :: denot S (stackNext S heap st nd idx ref).1 (stackNext S heap st nd idx ref).2 := by
  rw [denot_append]
  have h1 : denot S heap [(nd, idx, ref)] = fcboNode S (S.width + 1) nd idx (heap.read ref) := by
    simp only [denot, List.reverse_singleton, List.flatMap_singleton]
    exact C04_stack_depth_fuel S _ _ _ _ _ (Nat.sub_le _ _) (Nat.le_succ_of_le (Nat.sub_le _ _))
  rw [h1, fcboNode_succ_eq, List.cons_append, stackNext]
  refine congrArg (nd :: ·) ?_
  split_ifs
  · rfl
  · rw [denot_append, denot_frame S heap _ st hv]
    refine congrArg (· ++ denot S heap st) ?_
    simp only [denot, ← List.map_reverse, List.flatMap_map, pushed, SHeap.read_append_length]

/-- arbitrary stack: with step fuel at least the number of nodes still to come, the machine yields — from the top
of the stack downwards — the `fcboNode` lists of its entries, each with the current contents of its cell, and it
halts with the empty stack -/
theorem C04_stack_generalised (S : Side) (fuel : Nat) (heap : SHeap) (st : List SEntry)
    (hv : SValid heap st)
    (hfuel : (st.reverse.flatMap fun e => fcboNode S S.width e.1 e.2.1 (heap.read e.2.2)).length ≤ fuel) :
    stackRun S fuel heap st = st.reverse.flatMap (fun e => fcboNode S S.width e.1 e.2.1 (heap.read e.2.2)) ∧
    (stackAfter S fuel heap st).2 = [] := by
  change (denot S heap st).length ≤ fuel at hfuel
  change stackRun S fuel heap st = denot S heap st ∧ _
  induction fuel generalizing heap st with
  | zero =>
    rcases List.eq_nil_or_concat st with rfl | ⟨st0, ⟨nd, idx, ref⟩, rfl⟩
    · exact ⟨rfl, rfl⟩
    · rw [List.concat_eq_append] at hv hfuel
      rw [denot_concat hv.of_concat] at hfuel
      exact absurd hfuel (Nat.not_succ_le_zero _)
  | succ fuel ih =>
    rcases List.eq_nil_or_concat st with rfl | ⟨st0, ⟨nd, idx, ref⟩, rfl⟩
    · rw [stackRun_nil, stackAfter_nil]; exact ⟨rfl, rfl⟩
    · rw [List.concat_eq_append] at hv hfuel ⊢
      rw [denot_concat hv.of_concat] at hfuel ⊢
      rw [stackRun_concat, stackAfter_concat]
      obtain ⟨h1, h2⟩ := ih _ _ (hv.of_concat.next S nd idx ref) (Nat.le_of_succ_le_succ hfuel)
      exact ⟨by rw [h1], h2⟩

example : SValid [#[0, 0], #[1, 2]] [(⟨0, 3⟩, 0, 0), (⟨1, 1⟩, 1, 1), (⟨2, 1⟩, 2, 1)] := by decide

/-- **the stack machine refines the recursive model**: started from the singleton stack `[(nd, idx, ref)]` on any
heap in which `ref` holds `sets`, with depth fuel `fuel' ≥ width - idx` for the model and step fuel `fuel` ≥ the
number of nodes to be yielded for the machine, the machine yields exactly `fcboNode S fuel' nd idx sets` and halts
with the empty stack -/
theorem C04_stack_refines (S : Side) (nd : FNode) (idx : Nat) (sets : Array Nat) (heap : SHeap) (ref : Nat)
    (fuel' fuel : Nat) (href : ref < heap.length) (hsets : heap.read ref = sets)
    (hdepth : S.width - idx ≤ fuel') (hfuel : (fcboNode S fuel' nd idx sets).length ≤ fuel) :
    stackRun S fuel heap [(nd, idx, ref)] = fcboNode S fuel' nd idx sets ∧
    (stackAfter S fuel heap [(nd, idx, ref)]).2 = [] := by
  have hst : fcboNode S fuel' nd idx sets = fcboNode S S.width nd idx sets :=
    C04_stack_depth_fuel S _ _ _ _ _ hdepth (Nat.sub_le _ _)
  have := C04_stack_generalised S fuel heap [(nd, idx, ref)] (by intro e he; simp at he; subst he; exact href)
    (by simpa [hsets, ← hst] using hfuel)
  simpa [hsets, ← hst] using this

/-- the same with an explicit step fuel: `2 ^ (width - idx)` steps are always enough -/
theorem C04_stack_refines_pow (S : Side) (nd : FNode) (idx : Nat) (sets : Array Nat)
    (fuel' fuel : Nat) (hdepth : S.width - idx ≤ fuel') (hfuel : 2 ^ (S.width - idx) ≤ fuel) :
    stackRun S fuel [sets] [(nd, idx, 0)] = fcboNode S fuel' nd idx sets ∧
    (stackAfter S fuel [sets] [(nd, idx, 0)]).2 = [] :=
  C04_stack_refines S nd idx sets [sets] 0 fuel' fuel Nat.zero_lt_one rfl hdepth
    ((C04_stack_length_le S fuel' nd idx sets).trans hfuel)

/-- more fuel never changes the result once the stack is empty -/
theorem C04_stack_fuel_mono (S : Side) (fuel fuel' : Nat) (heap : SHeap) (st : List SEntry)
    (hdone : (stackAfter S fuel heap st).2 = []) (hle : fuel ≤ fuel') :
    stackRun S fuel' heap st = stackRun S fuel heap st ∧
    stackAfter S fuel' heap st = stackAfter S fuel heap st := by
  induction fuel generalizing fuel' heap st with
  | zero =>
    obtain rfl : st = [] := hdone
    rw [stackRun_nil, stackRun_nil, stackAfter_nil, stackAfter_nil]; exact ⟨rfl, rfl⟩
  | succ fuel ih =>
    obtain ⟨f, rfl⟩ := Nat.exists_eq_succ_of_ne_zero (Nat.ne_of_gt (Nat.lt_of_lt_of_le (Nat.succ_pos fuel) hle))
    rcases List.eq_nil_or_concat st with rfl | ⟨st0, ⟨nd, idx, ref⟩, rfl⟩
    · rw [stackRun_nil, stackRun_nil, stackAfter_nil, stackAfter_nil]; exact ⟨rfl, rfl⟩
    · rw [List.concat_eq_append] at hdone ⊢
      rw [stackAfter_concat] at hdone
      simp only [stackRun_concat, stackAfter_concat]
      obtain ⟨h1, h2⟩ := ih f _ _ hdone (Nat.le_of_succ_le_succ hle)
      exact ⟨by rw [h1], h2⟩

/-- a run from index 0 on a one-cell heap, with the fuels the two generators use -/
theorem stack_root (S : Side) (nd : FNode) (sets : Array Nat) :
    stackRun S (2 ^ S.width) [sets] [(nd, 0, 0)] = fcboNode S (S.width + 1) nd 0 sets ∧
    (stackAfter S (2 ^ S.width) [sets] [(nd, 0, 0)]).2 = [] :=
  C04_stack_refines_pow S nd 0 sets _ _ (Nat.le_succ_of_le (Nat.sub_le _ _)) (le_refl _)

/-- `fast_generate_from` on the stack machine = the recursive model, for every context -/
theorem C04_stack_fcbo (K : Ctx) : fcboStack K = fcbo K := by
  unfold fcboStack fcbo
  dsimp only
  rw [(stack_root ⟨K.m, fun j => K.cols[j]!, K.intentOf⟩ _ _).1]

/-- `fcbo_dual` on the stack machine = the recursive model, for every context -/
theorem C04_stack_fcbo_dual (K : Ctx) : fcboDualStack K = fcboDual K := by
  unfold fcboDualStack fcboDual
  dsimp only
  rw [(stack_root ⟨K.n, fun j => K.rows[j]!, K.extentOf⟩ _ _).1]

/-- the machine has halted within its fuel in `fcboStack` / `fcboDualStack` -/
theorem C04_stack_fcbo_halts (K : Ctx) :
    (stackAfter ⟨K.m, fun j => K.cols[j]!, K.intentOf⟩ (2 ^ K.m) [Array.replicate K.m 0]
      [(⟨(K.dpObj (full K.n)).2, (K.dpObj (full K.n)).1⟩, 0, 0)]).2 = [] ∧
    (stackAfter ⟨K.n, fun j => K.rows[j]!, K.extentOf⟩ (2 ^ K.n) [Array.replicate K.n 0]
      [(⟨(K.dpObj 0).1, (K.dpObj 0).2⟩, 0, 0)]).2 = [] :=
  ⟨(stack_root ⟨K.m, fun j => K.cols[j]!, K.intentOf⟩ _ _).2, (stack_root ⟨K.n, fun j => K.rows[j]!, K.extentOf⟩ _ _).2⟩

/-- rows A = 0,1,2; B = 0,2,3,4,5; C = 0,1,4; D = 1,2 -/
def C04S_K : Ctx := mkCtx 4 6 #[7, 61, 19, 6]

theorem C04S_fcbo : fcbo C04S_K = [(15, 0), (7, 1), (5, 3), (1, 7), (0, 63), (4, 19), (3, 5), (2, 61), (6, 17),
    (13, 2), (9, 6), (11, 4)] := by decide +kernel
theorem C04S_fcboDual : fcboDual C04S_K = [(0, 63), (1, 7), (3, 5), (7, 1), (15, 0), (11, 4), (5, 3), (13, 2),
    (9, 6), (2, 61), (6, 17), (4, 19)] := by decide +kernel

/-- the doctest of `fast_generate_from`, on the machine and on the recursive model -/
example : fcboStack C04S_K = [(15, 0), (7, 1), (5, 3), (1, 7), (0, 63), (4, 19), (3, 5), (2, 61), (6, 17),
    (13, 2), (9, 6), (11, 4)] := (C04_stack_fcbo _).trans C04S_fcbo
example : fcbo C04S_K = [(15, 0), (7, 1), (5, 3), (1, 7), (0, 63), (4, 19), (3, 5), (2, 61), (6, 17),
    (13, 2), (9, 6), (11, 4)] := C04S_fcbo
/-- the doctest of `fcbo_dual` -/
example : fcboDualStack C04S_K = [(0, 63), (1, 7), (3, 5), (7, 1), (15, 0), (11, 4), (5, 3), (13, 2),
    (9, 6), (2, 61), (6, 17), (4, 19)] := (C04_stack_fcbo_dual _).trans C04S_fcboDual
example : fcboDual C04S_K = [(0, 63), (1, 7), (3, 5), (7, 1), (15, 0), (11, 4), (5, 3), (13, 2),
    (9, 6), (2, 61), (6, 17), (4, 19)] := C04S_fcboDual
example : fcboStack C04S_K = fcbo C04S_K ∧ fcboDualStack C04S_K = fcboDual C04S_K :=
  ⟨C04_stack_fcbo _, C04_stack_fcbo_dual _⟩

/-- the sharing is visible on the example: the run allocates one cell per non-leaf node (11 of the 12 nodes; the
leaf is `('', '012345')`), and after the first step the three children of the root all reference cell 1, which
holds the list after the root's whole loop -/
example : (stackAfter ⟨6, fun j => C04S_K.cols[j]!, C04S_K.intentOf⟩ 64 [Array.replicate 6 0]
    [(⟨0, 15⟩, 0, 0)]).1.length = 12 := by decide +kernel
example : ((stackAfter ⟨6, fun j => C04S_K.cols[j]!, C04S_K.intentOf⟩ 1 [Array.replicate 6 0]
    [(⟨0, 15⟩, 0, 0)]).2.map (·.2.2)) = [1, 1, 1] := by decide +kernel
example : (stackAfter ⟨6, fun j => C04S_K.cols[j]!, C04S_K.intentOf⟩ 1 [Array.replicate 6 0]
    [(⟨0, 15⟩, 0, 0)]).1 = [#[0, 0, 0, 0, 0, 0], #[0, 0, 0, 61, 17, 61]] := by decide +kernel
/-- non-vacuity of the non-leaf hypothesis of `C04_stack_child_sees_final` (root of the example) -/
example : ¬ ((0 : Nat) = (⟨6, fun j => C04S_K.cols[j]!, C04S_K.intentOf⟩ : Side).width ∨
    (⟨0, 15⟩ : FNode).other = 0) := by decide

/-- the aliasing really occurs: in the context with rows `∅, ∅, {2}` over 4 properties the root's loop pushes the
child for `j = 2` when the shared list is `[0, 0, 0, 15]` and afterwards stores `next_property_sets[1] = 15`; the
entry on the stack observes the update because it holds a reference (cell 1), not a copy -/
def C04S_K2 : Ctx := mkCtx 3 4 #[0, 0, 4]

example :
    let S : Side := ⟨4, fun j => C04S_K2.cols[j]!, C04S_K2.intentOf⟩
    let z : Array Nat := Array.replicate 4 0
    let s1 := stackInner S ⟨0, 7⟩ 1 [3, 2] [z, z] []
    let s2 := stackInner S ⟨0, 7⟩ 1 [3, 2, 1, 0] [z, z] []
    s1.1 = [z, #[0, 0, 0, 15]] ∧ s1.2.map (fun e => (e.1.own, e.1.other, e.2.1, e.2.2)) = [(4, 4, 3, 1)] ∧
    s2.1 = [z, #[0, 15, 0, 15]] ∧
      s2.2.map (fun e => (e.1.own, e.1.other, e.2.1, e.2.2)) = [(4, 4, 3, 1), (15, 0, 1, 1)] := by
  decide +kernel
example : fcboStack C04S_K2 = [(7, 0), (0, 15), (4, 4)] ∧ fcbo C04S_K2 = [(7, 0), (0, 15), (4, 4)] := by
  decide +kernel

end FCA
#print axioms FCA.C04_stack_inner
#print axioms FCA.C04_stack_step
#print axioms FCA.C04_stack_frame
#print axioms FCA.C04_stack_valid
#print axioms FCA.C04_stack_child_sees_final
#print axioms FCA.C04_stack_generalised
#print axioms FCA.C04_stack_depth_fuel
#print axioms FCA.C04_stack_length_le
#print axioms FCA.C04_stack_refines
#print axioms FCA.C04_stack_refines_pow
#print axioms FCA.C04_stack_fuel_mono
#print axioms FCA.C04_stack_fcbo
#print axioms FCA.C04_stack_fcbo_dual
#print axioms FCA.C04_stack_fcbo_halts
