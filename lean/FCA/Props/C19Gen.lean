import FCA.Generated.Validate
import FCA.Generated.FromdictRow
import FCA.Props.C19
import FCA.Proofs.Defn
/-
C19 over the regenerated source: the chain of `if …: raise ValueError` guards of `Context.__init__`, as translated from
the current `contexts.py` by harness/extract.py, rejects exactly the triples the model's `ctorAccepts` rejects — so the
`C19_*` theorems about `ctorAccepts` / `ctxOfTriple` speak about the guards the source has now. Likewise for the row
validator `_make_set` and the cells of `Context.fromdict`.
-/
namespace FCA

theorem uniq_length_bne (l : List Name) : ((uniq l).length != l.length) = hasDup l := by
  rw [Bool.eq_iff_iff, bne_iff_ne, Ne, length_uniq_eq_iff, ← hasDup_eq_false_iff, Bool.not_eq_false]

theorem any_uniq (p : Name → Bool) (l : List Name) : (uniq l).any p = l.any p := by
  rw [Bool.eq_iff_iff, List.any_eq_true, List.any_eq_true]
  simp only [mem_uniq]

theorem pySetNe_singleton (lens : List Nat) (k : Nat) :
    pySetNe lens [k] = (lens.isEmpty || !(lens.all (· == k))) := by
  cases lens with
  | nil => rfl
  | cons y ys =>
    unfold pySetNe
    rw [List.isEmpty_cons, Bool.false_or]
    refine congrArg (!·) ?_
    rw [Bool.eq_iff_iff]
    simp only [Bool.and_eq_true, List.all_eq_true, List.contains_iff_mem, List.mem_singleton, beq_iff_eq]
    refine ⟨And.left, fun h => ⟨h, fun x hx => ?_⟩⟩
    rw [hx, ← h y List.mem_cons_self]; exact List.mem_cons_self

/-- the guard chain of the current source rejects exactly what the model's `ctorAccepts` rejects -/
theorem C19_generated_ctor (os ps : List Name) (bools : List (List Bool)) :
    Generated.ctorRejects os ps bools = !ctorAccepts os ps (bools.map (·.length)) := by
  unfold Generated.ctorRejects ctorAccepts
  rw [uniq_length_bne, uniq_length_bne, any_uniq, pySetNe_singleton, List.length_map, List.isEmpty_map]
  -- without rows the row count is right exactly when there is no object; apart from that the two sides are the
  -- same Boolean combination of the same eight tests, in whatever order the source lists its guards
  have key : bools.isEmpty = true → (bools.length == os.length) = os.isEmpty := fun h => by
    rw [List.isEmpty_iff.mp h]; cases os <;> rfl
  simp only [bne]
  generalize os.isEmpty = a at key ⊢
  generalize hasDup os = b
  generalize ps.isEmpty = c
  generalize hasDup ps = d
  generalize os.any ps.contains = e
  generalize (bools.length == os.length) = f at key ⊢
  generalize bools.isEmpty = g at key ⊢
  generalize (bools.map fun b => b.length).all (· == ps.length) = h
  revert a b c d e f g h
  decide +kernel

/-- `Context(objects, properties, bools)` of the model succeeds iff no guard of the current source raises -/
theorem C19_generated_ctxOfTriple (os ps : List Name) (bools : List (List Bool)) :
    (∃ K, ctxOfTriple os ps bools = .ok K) ↔ Generated.ctorRejects os ps bools = false := by
  rw [C19_generated_ctor, Bool.not_eq_false', tripleOk_iff]
  exact C19_ctxOfTriple_ok_iff os ps bools

/-- `_make_set(r)` of the current source raises exactly when the model's row test (`rowOk` in `fromdictCheck`: no repeated index,
every index in `0 ≤ i < len(properties)` — negative indexes included) fails -/
theorem C19_generated_fromdict_row (np : Nat) (r : List Int) :
    Generated.fromdict_rowRejects np r =
      !(r.eraseDups.length == r.length && r.all fun i => decide (0 ≤ i) && decide (i < (np : Int))) := by
  have h : (r.eraseDups.all ((List.range np).map Int.ofNat).contains) = r.all fun i => decide (0 ≤ i) && decide (i < (np : Int)) := by
    rw [Bool.eq_iff_iff]
    simp only [List.all_eq_true, List.mem_eraseDups, List.contains_iff_mem, List.mem_map, List.mem_range, Bool.and_eq_true, decide_eq_true_eq]
    constructor
    · intro h x hx
      obtain ⟨a, ha, rfl⟩ := h x hx
      exact ⟨Int.natCast_nonneg a, Int.ofNat_lt.mpr ha⟩
    · intro h x hx
      obtain ⟨h0, h1⟩ := h x hx
      exact ⟨x.toNat, Int.ofNat_lt.mp (Int.toNat_of_nonneg h0 ▸ h1), Int.toNat_of_nonneg h0⟩
  simp only [Generated.fromdict_rowRejects]
  rw [h]
  simp only [bne, Bool.not_and]

theorem C19_generated_fromdict_cells (np : Nat) (r : List Int) :
    Generated.fromdict_rowCells np r = (List.range np).map fun (j : Nat) => r.contains (Int.ofNat j) := by
  simp only [Generated.fromdict_rowCells]
  apply List.map_congr_left
  intro j _
  rw [Bool.eq_iff_iff]
  simp [List.mem_eraseDups]

/-- all rows: `fromdictCheck` goes on iff no row is rejected by the regenerated validator, and the cells it builds are the
regenerated ones -/
theorem C19_generated_fromdict_rows (np : Nat) (context : List (List Int)) :
    (context.all fun r => r.eraseDups.length == r.length && r.all fun i => decide (0 ≤ i) && decide (i < (np : Int))) =
      !(context.any (Generated.fromdict_rowRejects np)) ∧
    (context.map fun r => (List.range np).map fun (j : Nat) => r.contains (Int.ofNat j)) =
      context.map (Generated.fromdict_rowCells np) := by
  constructor
  · rw [List.all_eq_not_any_not]
    exact congrArg (fun f => !context.any f) (funext fun r => (C19_generated_fromdict_row np r).symm)
  · exact List.map_congr_left fun r _ => (C19_generated_fromdict_cells np r).symm

end FCA
#print axioms FCA.C19_generated_ctor
#print axioms FCA.C19_generated_ctxOfTriple
#print axioms FCA.C19_generated_fromdict_row
#print axioms FCA.C19_generated_fromdict_cells
#print axioms FCA.C19_generated_fromdict_rows
