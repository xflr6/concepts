import FCA.Generated.SortKeys
import FCA.Generated.Tolist
import FCA.Model.Misc
/-
C11 over the regenerated source: which orders `Lattice._fromlist(unordered=True)` (the `raw=True` loader) of the current
`lattices.py` uses to sort the stored concepts and their neighbor lists. Loading with the orders *named by the source* is
the model's `fromStored … true` — about which `C11_roundtrip_raw*` are proved. Likewise the four parts of an entry of
`Lattice._tolist` and the model's `toStored` (`C11_generated_tolist`).
-/
namespace FCA

def C11_orderOfName (n : Nat) : String → Option (Nat → Nat)
  | "shortlex" => some (shortlexKey n)
  | "longlex" => some (longlexKey n)
  | _ => none

/-- the `raw=True` branch of `fromStored` with the sort orders looked up in a configuration -/
def C11_fromStoredRawCfg (K : Ctx) (st : List Stored) (cfg : List (String × String)) : Option Lattice :=
  match (cfg.lookup "concepts").bind (C11_orderOfName K.n), (cfg.lookup "upper_neighbors").bind (C11_orderOfName K.n),
        (cfg.lookup "lower_neighbors").bind (C11_orderOfName K.n) with
  | some cKey, some upKey, some loKey =>
    let cs := st.map fun s => (ofMembers s.extent, ofMembers s.intent, s.upper, s.lower)
    let extents := cs.map (·.1)
    let order := sortStable (fun i => cKey (extents.getD i 0)) (List.range cs.length)
    let newPos := fun old => (indexOf? old order).getD 0
    let cs' := order.filterMap fun old => (cs[old]?).map fun (e, i, up, lo) =>
      (e, i, (sortStable (fun i => upKey (extents.getD i 0)) up).map newPos,
        (sortStable (fun i => loKey (extents.getD i 0)) lo).map newPos)
    some (finishLattice K cs')
  | _, _, _ => none

/-- with the sort orders the current source names, the `raw=True` loader is the model's `fromStored K st true` -/
theorem C11_generated_fromStored_raw (K : Ctx) (st : List Stored) :
    C11_fromStoredRawCfg K st Generated.fromlist_sort_cfg = some (fromStored K st true) := by
  simp [C11_fromStoredRawCfg, Generated.fromlist_sort_cfg, List.lookup, C11_orderOfName, fromStored]

/-- one part of a stored concept, by (attribute of the concept, conversion): bit sets are listed by `iter_set` (ascending member
indexes, `bitsets` contract), neighbor tuples by the `index` of their members (the model stores neighbors as indexes already) -/
def C11_partOfCfg (K : Ctx) (c : LConcept) : String × String → Option (List Nat)
  | ("_extent", "iter_set") => some (membersW K.n c.extent)
  | ("_intent", "iter_set") => some (membersW K.m c.intent)
  | ("upper_neighbors", "index") => some c.upper
  | ("lower_neighbors", "index") => some c.lower
  | _ => none

/-- `_tolist()` of the current source writes, per concept, the four parts of the model's `toStored`, in its order -/
theorem C11_generated_tolist (K : Ctx) (L : Lattice) :
    L.map (fun c => Generated.tolist_cfg.map (C11_partOfCfg K c)) =
      (toStored K L).map fun s => [some s.extent, some s.intent, some s.upper, some s.lower] := by
  simp [toStored, Generated.tolist_cfg, C11_partOfCfg]

end FCA
#print axioms FCA.C11_generated_fromStored_raw
#print axioms FCA.C11_generated_tolist
