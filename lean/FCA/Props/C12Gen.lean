import FCA.Model.Formats
import FCA.Generated.Formats
import FCA.Generated.CxtLines
import FCA.Generated.TableDump
/-
C12: the constants the format model is written with are the ones in the current source
(`concepts/formats/*.py`) and in the running CPython (`str.isspace`), regenerated on every run;
the cxt writer (`iter_cxt_lines`, yield by yield) and the table writer (`table.dump_file`) of the
current source write the model's `dumpCxt` and `dumpTable` texts.
-/
namespace FCA

/-- the model's whitespace set is exactly CPython's `str.isspace()` set -/
theorem C12_generated_whitespace : Generated.pyWhitespace = pyWhitespace := by decide +kernel

/-- cxt cells are written `X` / `.` -/
theorem C12_generated_cxt_symbols : Generated.cxtSymbols = [(false, "."), (true, "X")] := by decide +kernel

/-- csv cells are written `X` / blank, or `1` / `0` with `bools_as_int`; the X/blank set is tried first -/
theorem C12_generated_csv_symbols :
    Generated.csvSymbols = [(false, false, ""), (false, true, "X"), (true, false, "0"), (true, true, "1")] ∧
    Generated.csvValueOrder = [false, true] := by decide +kernel

/-- file suffix → format, and which formats strip the trailing newline of the dumped text -/
theorem C12_generated_tables :
    Generated.bySuffix = [(".csv", "csv"), (".cxt", "cxt"), (".dat", "fimi"), (".py", "python-literal"), (".txt", "table")] ∧
    Generated.dumpsRstrip = [("csv", false), ("cxt", false), ("fimi", false), ("python-literal", true), ("table", true),
      ("wiki-table", true), ("wikitable", true)] := by decide +kernel

/-! ### the cxt writer, yield by yield -/

/-- the cell symbols of the current source (`Generated.cxtSymbols`) as the function `symbols[value]` -/
def C12_cxtSymbol (value : Bool) : List Char :=
  ((Generated.cxtSymbols.lookup value).getD "").toList

/-- `Cxt.dumpf` of the current source — `print` of every line `iter_cxt_lines` yields, with the symbols table of the current
source — writes exactly the model's `dumpCxt` text (about which `C12_cxt_roundtrip*`, `C12_strict_cxt` are proved) -/
theorem C12_generated_cxt_dump (objects properties : List Str) (bools : List (List Bool)) :
    unlines (Generated.cxt_lines C12_cxtSymbol objects properties bools) = dumpCxt objects properties bools := by
  have h : ∀ b, C12_cxtSymbol b = [if b then 'X' else '.'] := by decide +kernel
  simp only [Generated.cxt_lines, dumpCxt, h, ← List.map_eq_flatMap]
  rfl

/-! ### the table writer -/

/-- `Table.dumps(…, indent=…)` of the current source — the header and one line per object printed through the `%-Ns|` template,
then the final `rstrip()` (`dumps_rstrip`, see `C12_generated_tables`) — is the model's `dumpTable` (the subject of
`C12_table_roundtrip`, `C12_strict_table`) -/
theorem C12_generated_table_dump (indent : Nat) (objects properties : List Str) (bools : List (List Bool)) :
    rstripBy isSpace (unlines (Generated.table_lines indent objects properties bools)) =
      dumpTable indent objects properties bools := rfl

end FCA
#print axioms FCA.C12_generated_whitespace
#print axioms FCA.C12_generated_cxt_dump
#print axioms FCA.C12_generated_table_dump
