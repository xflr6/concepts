import FCA.Generated.Derive
import FCA.Generated.Defn
import FCA.Props.C17
import FCA.Props.C13Gen
/-
C17 over the regenerated source: the two places where the *order* of names reaches an observable through code that used to
(D1) or could iterate a hash-ordered collection — the pairs listed in the conflict `ValueError` and the names appended by
`set_object` / `set_property` — stated for the code translated from the current `definitions.py`.
-/
namespace FCA

/-- the conflict list of the current source is a filter of the right operand's table order: no enumeration of a `set` is involved -/
theorem C17_generated_conflicts_order (l r : Defn) :
    Generated.conflicting_pairs l r = (r.objs.flatMap fun o => r.props.map fun p => (o, p)).filter fun q =>
      l.objs.contains q.1 && (l.props.contains q.2 && (l.pairs.contains q != r.pairs.contains q)) :=
  C17_conflicts_order l r

/-- `set_object` of the current source appends the new property names in the order given (first occurrences) -/
theorem C17_generated_set_object_order (d : Defn) (o : Name) (ps : List Name) (d' : Defn)
    (h : Generated.defn_set_object d.objs d.props d.pairs o ps = .ok d') :
    d'.props = d.props ++ uniq (ps.filter (fun x => !d.props.contains x)) := by
  rw [C13_generated_set_object] at h
  obtain ⟨⟨d'', r⟩, hs, rfl⟩ := map_eq_ok_iff.mp h
  exact C17_set_object_order d o ps d'' r hs

/-- `set_property` likewise for the new object names -/
theorem C17_generated_set_property_order (d : Defn) (p : Name) (os : List Name) (d' : Defn)
    (h : Generated.defn_set_property d.objs d.props d.pairs p os = .ok d') :
    d'.objs = d.objs ++ uniq (os.filter (fun x => !d.objs.contains x)) := by
  rw [C13_generated_set_property] at h
  obtain ⟨⟨d'', r⟩, hs, rfl⟩ := map_eq_ok_iff.mp h
  exact C17_set_property_order d p os d'' r hs

end FCA
#print axioms FCA.C17_generated_conflicts_order
#print axioms FCA.C17_generated_set_object_order
#print axioms FCA.C17_generated_set_property_order
