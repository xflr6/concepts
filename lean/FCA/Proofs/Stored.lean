import FCA.Proofs.LatticeSpec
import FCA.Model.Misc
/-
`Lattice._tolist` / `Lattice._fromlist` of the model (`toStored`, `finishLattice`, `fromStored`):
`finishLattice` on the (extent, intent, upper, lower) tuples of a lattice satisfying `LatticeSpec`
rebuilds that lattice, and the re-sorting path of `fromStored` undoes any shuffle of the stored
sequences.
-/
namespace FCA

/-- `st'` is a rearrangement of the stored form `st`: the entry at (new) position `p` of `st'` came
from (old) position `perm p` of `st`; `newpos` is the inverse renaming of positions; the neighbor
tuples of the entry are arbitrary permutations of the renamed old tuples and the extent / intent
index lists are arbitrary permutations of the old ones. All fields are decidable. -/
structure StoredShuffle (st st' : List Stored) (perm newpos : Nat → Nat) : Prop where
  length : st'.length = st.length
  perm_lt : ∀ p, p < st.length → perm p < st.length
  newpos_lt : ∀ q, q < st.length → newpos q < st.length
  newpos_perm : ∀ p, p < st.length → newpos (perm p) = p
  perm_newpos : ∀ q, q < st.length → perm (newpos q) = q
  entry : ∀ p, p < st.length → ∀ s' ∈ st'[p]?, ∀ s ∈ st[perm p]?,
    s'.extent.Perm s.extent ∧ s'.intent.Perm s.intent ∧
    s'.upper.Perm (s.upper.map newpos) ∧ s'.lower.Perm (s.lower.map newpos)

/-- the concepts stay in place and only the four index tuples of each are rearranged -/
theorem StoredShuffle.inner {st st' : List Stored} (hlen : st'.length = st.length)
    (hent : ∀ p, p < st.length → ∀ s' ∈ st'[p]?, ∀ s ∈ st[p]?,
      s'.extent.Perm s.extent ∧ s'.intent.Perm s.intent ∧ s'.upper.Perm s.upper ∧ s'.lower.Perm s.lower) :
    StoredShuffle st st' id id :=
  ⟨hlen, fun _ h => h, fun _ h => h, fun _ _ => rfl, fun _ _ => rfl, fun p hp s' hs' s hs => by
    simpa using hent p hp s' hs' s hs⟩

end FCA

namespace FCA.C11

theorem insertStable_eq (key : Nat → Nat) (x : Nat) (l : List Nat) :
    insertStable key x l = insertBy key x l := by
  induction l with
  | nil => rfl
  | cons y ys ih =>
    unfold insertStable insertBy
    rw [ih]

theorem sortStable_eq (key : Nat → Nat) (l : List Nat) : sortStable key l = sortBy key l :=
  (foldr_eq_insertionSort key (fun x l => (insertStable_eq key x l).trans (insertBy_eq key x l)) l).trans (sortBy_eq key l).symm

theorem sortStable_eq_of_perm {key : Nat → Nat} {l t : List Nat} (hp : l.Perm t)
    (hs : t.Pairwise (fun a b => key a < key b)) : sortStable key l = t := by
  rw [sortStable_eq]; exact sortBy_eq_of_perm hp hs

/-- the stored tuple of a concept (with masks instead of index lists) -/
def tup (c : LConcept) : Nat × Nat × List Nat × List Nat := (c.extent, c.intent, c.upper, c.lower)

/-- `mapping[e]` of `_annotate` on duplicate-free extents: the position of `e` -/
theorem mapIdx_iff {E : List Nat} (hnd : E.Nodup) (e k : Nat) :
    (List.range E.length).reverse.find? (fun i => E.getD i 0 == e) = some k ↔ E[k]? = some e := by
  have found : ∀ {k'}, (List.range E.length).reverse.find? (fun i => E.getD i 0 == e) = some k' → E[k']? = some e := by
    intro k' h
    have hm := List.mem_range.mp (List.mem_reverse.mp (List.mem_of_find?_eq_some h))
    have hp := List.find?_some h
    rw [beq_iff_eq] at hp
    rw [get_of_lt hm, hp]
  refine ⟨found, fun h => ?_⟩
  -- something is found since `k` qualifies, and no other position holds `e`
  obtain ⟨k', hk'⟩ := Option.isSome_iff_exists.mp ((List.find?_isSome (p := fun i => E.getD i 0 == e)).mpr
    ⟨k, List.mem_reverse.mpr (List.mem_range.mpr (lt_of_get h)), beq_iff_eq.mpr (getD_of_get h)⟩)
  rw [hk', pos_inj hnd (found hk') h]

theorem map_tup_extents (L : Lattice) : (L.map tup).map (·.1) = L.map (·.extent) := by
  rw [List.map_map]; rfl

theorem head_tup_upper (L : Lattice) : (((L.map tup).head?).map (·.2.2.1)).getD [] = L.upperAt 0 := by
  cases L <;> rfl

/-- `_init` + `_annotate` recompute every derived field -/
theorem finishLattice_spec {K : Ctx} {L : Lattice} (S : LatticeSpec K L) :
    finishLattice K (L.map tup) = L := by
  apply List.ext_getElem?
  intro k
  unfold finishLattice
  rw [List.getElem?_map, List.getElem?_zipIdx, List.getElem?_map]
  cases hc : L[k]? with
  | none => rfl
  | some c =>
    -- a label filter through `mapping[..] is c` is the filter through the extent
    have lab : ∀ (w : Nat) (g : Nat → Nat),
        ((List.range w).filter fun x => (List.range L.length).reverse.find?
          (fun i => (L.map (·.extent)).getD i 0 == g x) == some k) = (List.range w).filter fun x => g x == c.extent :=
      fun w g => List.filter_congr fun x _ => by
        rw [← List.length_map (f := fun c : LConcept => c.extent), Bool.eq_iff_iff, beq_iff_eq, beq_iff_eq,
          mapIdx_iff S.nodup, S.extent_get hc, Option.some.injEq, eq_comm]
    simp only [Option.map_some, tup, Nat.zero_add, map_tup_extents, head_tup_upper, List.length_map, sortStable_eq, lab]
    have eta : c = ⟨c.extent, c.intent, c.upper, c.lower, c.index, c.dindex, c.atoms, c.objects, c.properties⟩ := rfl
    conv_rhs => rw [eta]
    rw [Option.some.injEq, LConcept.mk.injEq]
    exact ⟨rfl, rfl, rfl, rfl, (S.index hc).symm, (S.dindex hc).symm, (S.atoms hc).symm, (S.objects hc).symm,
      (S.properties hc).symm⟩

def decode (st : List Stored) : List (Nat × Nat × List Nat × List Nat) :=
  st.map fun s => (ofMembers s.extent, ofMembers s.intent, s.upper, s.lower)

theorem fromStored_false (K : Ctx) (st : List Stored) : fromStored K st false = finishLattice K (decode st) := rfl

theorem map_range_perm {n : Nat} {σ τ : Nat → Nat} (hτ : ∀ q, q < n → τ q < n)
    (hσ : ∀ p, p < n → σ p < n) (hτσ : ∀ p, p < n → τ (σ p) = p) (hστ : ∀ q, q < n → σ (τ q) = q) :
    (List.range n).Perm ((List.range n).map τ) := by
  rw [List.perm_ext_iff_of_nodup List.nodup_range]
  · intro x
    rw [List.mem_range, List.mem_map]
    constructor
    · intro hx; exact ⟨σ x, List.mem_range.mpr (hσ x hx), hτσ x hx⟩
    · rintro ⟨q, hq, rfl⟩; exact hτ q (List.mem_range.mp hq)
  · apply List.Nodup.map_on _ List.nodup_range
    intro a ha b hb hab
    rw [← hστ a (List.mem_range.mp ha), ← hστ b (List.mem_range.mp hb), hab]

/-- positions renamed by `τ` and shuffled, then sorted by a key `κ'` that agrees with `κ` through the renaming: the renamed
tuple as it was sorted by `κ` -/
theorem sortStable_renamed {τ κ : Nat → Nat} (κ' : Nat → Nat) {l t : List Nat} (hp : t.Perm (l.map τ))
    (hκ : ∀ a ∈ l, κ' (τ a) = κ a) (hs : l.Pairwise (fun a b => κ a < κ b)) : sortStable κ' t = l.map τ := by
  refine sortStable_eq_of_perm hp (List.pairwise_map.mpr (hs.imp_of_mem fun {a b} ha hb hab => ?_))
  rwa [hκ a ha, hκ b hb]

theorem toStored_get (K : Ctx) (L : Lattice) (k : Nat) :
    (toStored K L)[k]? = (L[k]?).map fun c => ⟨membersW K.n c.extent, membersW K.m c.intent, c.upper, c.lower⟩ := by
  unfold toStored; rw [List.getElem?_map]

theorem decode_toStored {K : Ctx} {L : Lattice} (S : LatticeSpec K L) : decode (toStored K L) = L.map tup := by
  unfold decode toStored
  rw [List.map_map]
  apply List.map_congr_left
  intro c hc
  obtain ⟨k, hk⟩ := List.getElem?_of_mem hc
  simp only [Function.comp_apply, tup]
  rw [ofMembers_membersW (S.bounded hk), ofMembers_membersW (S.bounded_intent hk)]

/-- `σ`, `τ = σ⁻¹` are the `perm`, `newpos` of `StoredShuffle`: position `p` of `st'` holds the entry of concept `σ p`,
neighbor positions renamed by `τ` -/
theorem fromStored_raw {K : Ctx} {L : Lattice} (S : LatticeSpec K L) {st' : List Stored} {σ τ : Nat → Nat}
    (hs : StoredShuffle (toStored K L) st' σ τ) : fromStored K st' true = L := by
  have hl : (toStored K L).length = L.length := List.length_map _
  obtain ⟨hlen, hσ, hτ, hτσ, hστ, hentry⟩ := hs
  rw [hl] at hlen hσ hτ hτσ hστ hentry
  -- the decoded entry at `τ q`: the tuple of concept `q` with renamed, permuted neighbor lists
  have hent : ∀ {q c}, L[q]? = some c → ∃ up lo, (decode st')[τ q]? = some (c.extent, c.intent, up, lo) ∧
      up.Perm (c.upper.map τ) ∧ lo.Perm (c.lower.map τ) := by
    intro q c hc
    have hq := lt_of_get hc
    have hs' := List.getElem?_eq_getElem (hlen ▸ hτ q hq : τ q < st'.length)
    obtain ⟨e1, e2, e3, e4⟩ := hentry _ (hτ q hq) _ hs' _ (by rw [hστ q hq, toStored_get, hc]; rfl)
    refine ⟨_, _, ?_, e3, e4⟩
    unfold decode
    rw [List.getElem?_map, hs', Option.map_some, ofMembers_congr fun _ => e1.mem_iff, ofMembers_congr fun _ => e2.mem_iff,
      ofMembers_membersW (S.bounded hc), ofMembers_membersW (S.bounded_intent hc)]
  replace hlen : (decode st').length = L.length := (List.length_map _).trans hlen
  unfold fromStored
  simp only [Bool.not_true, Bool.false_eq_true, if_false]
  unfold decode at hent hlen
  generalize (st'.map fun s => (ofMembers s.extent, ofMembers s.intent, s.upper, s.lower)) = cs at hent hlen ⊢
  have hEτ : ∀ q, q < L.length → (cs.map (·.1)).getD (τ q) 0 = (L.map (·.extent)).getD q 0 := by
    intro q hq
    obtain ⟨up, lo, hcs, _⟩ := hent (List.getElem?_eq_getElem hq)
    rw [S.getD_extent (List.getElem?_eq_getElem hq), List.getD_eq_getElem?_getD, List.getElem?_map, hcs]; rfl
  have hperm := map_range_perm hτ hσ hτσ hστ
  have horder : sortStable (fun i => shortlexKey K.n ((cs.map (·.1)).getD i 0)) (List.range cs.length) =
      (List.range L.length).map τ := by
    rw [hlen]
    exact sortStable_renamed _ hperm (fun a ha => congrArg (shortlexKey K.n) (hEτ a (List.mem_range.mp ha)))
      (List.pairwise_lt_range.imp_of_mem fun {a b} ha hb hab => key_lt_of_pos_lt S.sorted
        (get_of_lt (S.length_extents ▸ List.mem_range.mp ha)) (get_of_lt (S.length_extents ▸ List.mem_range.mp hb)) hab)
  -- the position of `τ a` in that order is `a`
  have hnew : ∀ {l : List Nat}, (∀ a ∈ l, a < L.length) →
      (l.map τ).map (fun old => (indexOf? old ((List.range L.length).map τ)).getD 0) = l := by
    intro l hl
    rw [List.map_map]
    conv_rhs => rw [← List.map_id l]
    refine List.map_congr_left fun a ha => ?_
    rw [Function.comp_apply, indexOf?_get_nodup (hperm.nodup_iff.mp List.nodup_range) (k := a)
      (by rw [List.getElem?_map, List.getElem?_range (hl a ha)]; rfl)]
    rfl
  simp only [horder]
  rw [List.filterMap_map]
  refine Eq.trans (congrArg (finishLattice K) ?_) (finishLattice_spec S)
  rw [← filterMap_range_eq_map L tup]
  refine List.filterMap_congr fun q hq => ?_
  rw [List.mem_range] at hq
  have hc := List.getElem?_eq_getElem hq
  obtain ⟨up, lo, hcs, hup, hlo⟩ := hent hc
  have hu : ∀ a ∈ L[q].upper, a < L.length := fun a ha => (S.upper_gt hc ha).2
  have hd : ∀ a ∈ L[q].lower, a < L.length := fun a ha => lt_trans (S.lower_lt hc ha) hq
  simp only [Function.comp_apply, hcs, hc, Option.map_some, tup]
  rw [sortStable_renamed (fun i => shortlexKey K.n ((cs.map (·.1)).getD i 0)) hup
      (fun a ha => congrArg (shortlexKey K.n) (hEτ a (hu a ha))) (S.upper_shortlex hc),
    sortStable_renamed (fun i => longlexKey K.n ((cs.map (·.1)).getD i 0)) hlo
      (fun a ha => congrArg (longlexKey K.n) (hEτ a (hd a ha))) (S.lower_sorted hc),
    hnew hu, hnew hd]

end FCA.C11
