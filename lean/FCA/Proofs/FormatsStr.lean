import FCA.Model.Formats
import FCA.Proofs.ListAux
/-
The string library of the text formats (`FCA/Model/Formats.lean`): what the strippers and the
splitters return on text put together by `joinWith`, `unlines`, `ljust` and padding. `splitChar`,
`splitBlank` (and `split2` of FormatsWiki) have two facts each (the splitter passes over a piece without
separator, `Passes`; it sees the separator), from which `split_joinWith_of_passes` gives the inverse
of `joinWith`; `splitWs` goes through `split_joinWith` directly. At the end `seqOpt`, the all-or-nothing of
the strict readers.
-/
namespace FCA

/-! ### strip -/

theorem lstripBy_append_left {p : Char → Bool} {a : Str} (h : ∀ c ∈ a, p c = true) (s : Str) :
    lstripBy p (a ++ s) = lstripBy p s := by
  induction a with
  | nil => rfl
  | cons c cs ih =>
    simp only [List.mem_cons, forall_eq_or_imp] at h
    simp only [lstripBy, List.cons_append, List.dropWhile_cons, h.1, if_true]
    exact ih h.2

theorem lstripBy_of_head {p : Char → Bool} {s : Str} (h : ∀ c ∈ s.head?, p c = false) :
    lstripBy p s = s := by
  cases s with
  | nil => rfl
  | cons c cs =>
    have := h c (by simp)
    simp [lstripBy, this]

theorem rstripBy_append_right {p : Char → Bool} {a : Str} (h : ∀ c ∈ a, p c = true) (s : Str) :
    rstripBy p (s ++ a) = rstripBy p s := by
  unfold rstripBy
  rw [List.reverse_append]
  have := lstripBy_append_left (p := p) (a := a.reverse) (fun c hc => h c (List.mem_reverse.1 hc)) s.reverse
  simp only [lstripBy] at this
  rw [this]

theorem rstripBy_of_last {p : Char → Bool} {s : Str} (h : ∀ c ∈ s.getLast?, p c = false) :
    rstripBy p s = s := by
  unfold rstripBy
  have := lstripBy_of_head (p := p) (s := s.reverse) (by rwa [List.head?_reverse])
  simp only [lstripBy] at this
  rw [this, List.reverse_reverse]

theorem stripBy_pad {p : Char → Bool} {a b s : Str} (ha : ∀ c ∈ a, p c = true)
    (hb : ∀ c ∈ b, p c = true) (hh : ∀ c ∈ s.head?, p c = false)
    (hl : ∀ c ∈ s.getLast?, p c = false) : stripBy p (a ++ s ++ b) = s := by
  unfold stripBy
  rw [List.append_assoc, lstripBy_append_left ha]
  cases s with
  | nil => rw [List.nil_append, ← List.append_nil b, lstripBy_append_left hb]; rfl
  | cons c cs =>
    rw [lstripBy_of_head (by simpa using hh), rstripBy_append_right hb, rstripBy_of_last hl]

theorem stripBy_all {p : Char → Bool} {a : Str} (ha : ∀ c ∈ a, p c = true) : stripBy p a = [] := by
  simpa using stripBy_pad (p := p) (a := a) (b := []) (s := []) ha (by simp) (by simp) (by simp)

theorem isSpace_space : isSpace ' ' = true := by decide
theorem isSpace_nl : isSpace '\n' = true := by decide

theorem replicate_space (n : Nat) : ∀ c ∈ List.replicate n ' ', isSpace c = true := by
  intro c hc; rw [List.eq_of_mem_replicate hc]; exact isSpace_space

/-! ### joinWith, unlines -/

theorem joinWith_cons_cons (sep x y : Str) (l : List Str) :
    joinWith sep (x :: y :: l) = x ++ sep ++ joinWith sep (y :: l) := rfl

theorem joinWith_cons (sep x : Str) (xs : List Str) :
    joinWith sep (x :: xs) = x ++ xs.flatMap (sep ++ ·) := by
  induction xs generalizing x with
  | nil => simp [joinWith]
  | cons y ys ih => rw [joinWith_cons_cons, ih]; simp

theorem not_mem_joinWith {c : Char} {sep : Str} {parts : List Str} (hs : c ∉ sep)
    (h : ∀ p ∈ parts, c ∉ p) : c ∉ joinWith sep parts := by
  cases parts with
  | nil => exact List.not_mem_nil
  | cons x xs =>
    rw [joinWith_cons]
    simp only [List.mem_append, List.mem_flatMap, not_or, not_exists, not_and]
    exact ⟨h x (by simp), fun p hp => ⟨hs, h p (by simp [hp])⟩⟩

theorem joinWith_ne_nil {sep x : Str} (hx : x ≠ []) (xs : List Str) : joinWith sep (x :: xs) ≠ [] := by
  rw [joinWith_cons]; simp [hx]

theorem head?_joinWith {sep x : Str} (hx : x ≠ []) (xs : List Str) :
    (joinWith sep (x :: xs)).head? = x.head? := by
  rw [joinWith_cons, List.head?_append_of_ne_nil _ hx]

theorem joinWith_concat (sep : Str) (ls : List Str) (x : Str) :
    joinWith sep (ls ++ [x]) = ls.flatMap (· ++ sep) ++ x := by
  induction ls with
  | nil => rfl
  | cons y ys ih =>
    obtain ⟨z, zs, e⟩ : ∃ z zs, ys ++ [x] = z :: zs := List.exists_cons_of_ne_nil (by simp)
    rw [List.cons_append, e, joinWith_cons_cons, ← e, ih]; simp

theorem getLast?_joinWith_concat (sep : Str) (ls : List Str) {x : Str} (hx : x ≠ []) :
    (joinWith sep (ls ++ [x])).getLast? = x.getLast? := by
  rw [joinWith_concat, List.getLast?_append_of_ne_nil _ hx]

theorem getLast?_joinWith {sep : Str} {P : Char → Prop} {ls : List Str}
    (h : ∀ l ∈ ls, l ≠ [] ∧ ∀ c ∈ l.getLast?, P c) : ∀ c ∈ (joinWith sep ls).getLast?, P c := by
  rcases List.eq_nil_or_concat' ls with rfl | ⟨init, x, rfl⟩
  · simp [joinWith]
  · rw [getLast?_joinWith_concat _ _ (h x (by simp)).1]
    exact (h x (by simp)).2

theorem joinWith_append_sep {sep : Str} {parts : List Str} (hne : parts ≠ []) :
    joinWith sep parts ++ sep = parts.flatMap (· ++ sep) := by
  obtain ⟨x, xs, rfl⟩ := List.exists_cons_of_ne_nil hne
  rw [joinWith_cons]
  induction xs generalizing x with
  | nil => simp
  | cons y ys ih => simpa using ih y

theorem unlines_cons (l : Str) (ls : List Str) : unlines (l :: ls) = l ++ '\n' :: unlines ls := by
  simp [unlines]

theorem unlines_nil : unlines [] = [] := rfl

theorem unlines_eq_joinWith {ls : List Str} (hne : ls ≠ []) :
    unlines ls = joinWith ['\n'] ls ++ ['\n'] := (joinWith_append_sep hne).symm

theorem rstrip_unlines {ls : List Str}
    (h : ∀ c ∈ (joinWith ['\n'] ls).getLast?, isSpace c = false) :
    rstripBy isSpace (unlines ls) = joinWith ['\n'] ls := by
  cases ls with
  | nil => rfl
  | cons l ls =>
    rw [unlines_eq_joinWith (List.cons_ne_nil l ls), rstripBy_append_right (by simp [isSpace_nl])]
    exact rstripBy_of_last h

theorem stripBy_joinWith {c : Char} {parts : List Str} (h : ∀ p ∈ parts, p ≠ [] ∧ c ∉ p) (a b : Str)
    (ha : ∀ x ∈ a, x = c) (hb : ∀ x ∈ b, x = c) :
    stripBy (· == c) (a ++ joinWith [c] parts ++ b) = joinWith [c] parts := by
  have key : ∀ p ∈ parts, ∀ d ∈ p, (d == c) = false := fun p hp d hd =>
    beq_false_of_ne fun e => (h p hp).2 (e ▸ hd)
  refine stripBy_pad (fun x hx => beq_iff_eq.2 (ha x hx)) (fun x hx => beq_iff_eq.2 (hb x hx)) ?_
    (getLast?_joinWith fun l hl => ⟨(h l hl).1, fun d hd => key l hl d (List.mem_of_getLast? hd)⟩)
  cases parts with
  | nil => exact fun d hd => by cases hd
  | cons x xs =>
    rw [head?_joinWith (h x (by simp)).1]
    exact fun d hd => key x (by simp) d (List.mem_of_mem_head? hd)

/-! ### a splitter passes over a text -/

/-- the splitter `sp` finds no separator in `a` nor at its end, whatever follows: `a` stays in front
of the first piece of the rest -/
def Passes (sp : Str → List Str) (a : Str) : Prop :=
  ∀ b, sp (a ++ b) = (a ++ (sp b).headD []) :: (sp b).tail

theorem Passes.append {sp : Str → List Str} {a a' : Str} (h : Passes sp a) (h' : Passes sp a') :
    Passes sp (a ++ a') := fun b => by
  rw [List.append_assoc, h, h']; simp

theorem Passes.of_chars {sp : Str → List Str} (hne : ∀ b, sp b ≠ []) {a : Str}
    (h : ∀ c ∈ a, Passes sp [c]) : Passes sp a := by
  induction a with
  | nil =>
    intro b
    obtain ⟨x, xs, hx⟩ := List.exists_cons_of_ne_nil (hne b)
    simp [hx]
  | cons c cs ih => exact (h c (by simp)).append (ih fun d hd => h d (by simp [hd]))

theorem split_joinWith {sp : Str → List Str} {sep : Str} {ok : Str → Prop}
    (h1 : ∀ a, ok a → sp a = [a]) (h2 : ∀ a b, ok a → sp (a ++ sep ++ b) = a :: sp b)
    {parts : List Str} (hne : parts ≠ []) (h : ∀ p ∈ parts, ok p) :
    sp (joinWith sep parts) = parts := by
  induction parts with
  | nil => contradiction
  | cons x xs ih =>
    cases xs with
    | nil => exact h1 x (h x (by simp))
    | cons y ys =>
      rw [joinWith_cons_cons, h2 _ _ (h x (by simp)), ih (by simp) fun p hp => h p (by simp [hp])]

theorem split_joinWith_of_passes {sp : Str → List Str} {sep : Str}
    (h0 : sp [] = [[]]) (hsep : ∀ b, sp (sep ++ b) = [] :: sp b)
    {parts : List Str} (hne : parts ≠ []) (h : ∀ p ∈ parts, Passes sp p) :
    sp (joinWith sep parts) = parts :=
  split_joinWith (ok := Passes sp) (fun a ha => by simpa [h0] using ha [])
    (fun a b ha => by rw [List.append_assoc, ha, hsep]; simp) hne h

/-! ### splitChar, partitionChar -/

theorem splitChar_ne_nil (sep : Char) (s : Str) : splitChar sep s ≠ [] := by
  cases s with
  | nil => simp [splitChar]
  | cons c cs =>
    simp only [splitChar]
    split
    · simp
    · split <;> simp

theorem splitChar_cons_sep (sep : Char) (s : Str) :
    splitChar sep (sep :: s) = [] :: splitChar sep s := by
  have h := splitChar_ne_nil sep s
  simp only [splitChar]
  split
  · contradiction
  · simp_all

theorem splitChar_cons_ne {sep c : Char} (h : c ≠ sep) (s : Str) :
    splitChar sep (c :: s) =
      (c :: (splitChar sep s).headD []) :: (splitChar sep s).tail := by
  have h' := splitChar_ne_nil sep s
  simp only [splitChar]
  split
  · contradiction
  · rename_i hd tl heq
    simp [heq, h]

theorem splitChar_passes {sep : Char} {a : Str} (h : sep ∉ a) : Passes (splitChar sep) a :=
  .of_chars (splitChar_ne_nil sep) fun _ hc => splitChar_cons_ne fun e => h (e ▸ hc)

theorem splitChar_nosep {sep : Char} {s : Str} (h : sep ∉ s) : splitChar sep s = [s] := by
  simpa [splitChar] using splitChar_passes h []

theorem splitChar_append_sep {sep : Char} {a : Str} (h : sep ∉ a) (b : Str) :
    splitChar sep (a ++ sep :: b) = a :: splitChar sep b := by
  rw [splitChar_passes h, splitChar_cons_sep]; simp

theorem splitChar_joinWith {sep : Char} {parts : List Str} (hne : parts ≠ [])
    (h : ∀ p ∈ parts, sep ∉ p) : splitChar sep (joinWith [sep] parts) = parts :=
  split_joinWith_of_passes rfl (splitChar_cons_sep sep) hne fun p hp => splitChar_passes (h p hp)

theorem splitChar_closed {sep : Char} {parts : List Str} (h : ∀ p ∈ parts, sep ∉ p) :
    splitChar sep (parts.flatMap (· ++ [sep])) = parts ++ [[]] := by
  induction parts with
  | nil => rfl
  | cons x xs ih =>
    rw [List.flatMap_cons, List.append_assoc, List.singleton_append,
      splitChar_append_sep (h x (by simp)), ih fun p hp => h p (by simp [hp])]
    rfl

theorem splitChar_unlines {ls : List Str} (h : ∀ l ∈ ls, '\n' ∉ l) :
    splitChar '\n' (unlines ls) = ls ++ [[]] := splitChar_closed h

theorem partitionChar_append {sep : Char} {a : Str} (h : sep ∉ a) (b : Str) :
    partitionChar sep (a ++ b) =
      (a ++ (partitionChar sep b).1, (partitionChar sep b).2.1, (partitionChar sep b).2.2) := by
  induction a with
  | nil => rfl
  | cons c cs ih =>
    simp only [List.mem_cons, not_or] at h
    simp [partitionChar, Ne.symm h.1, ih h.2]

theorem partitionChar_nosep {sep : Char} {s : Str} (h : sep ∉ s) :
    partitionChar sep s = (s, false, []) := by
  simpa [partitionChar] using partitionChar_append h []

theorem partitionChar_append_sep {sep : Char} {a : Str} (h : sep ∉ a) (b : Str) :
    partitionChar sep (a ++ sep :: b) = (a, true, b) := by
  rw [partitionChar_append h]; simp [partitionChar]

/-! ### splitBlank -/

theorem splitBlank_ne_nil (s : Str) : splitBlank s ≠ [] := by
  fun_induction splitBlank s <;> simp_all

theorem splitBlank_cons {c : Char} {s : Str} (h : c = '\n' → s.head? ≠ some '\n') :
    splitBlank (c :: s) = (c :: (splitBlank s).headD []) :: (splitBlank s).tail := by
  obtain ⟨hd, tl, e⟩ := List.exists_cons_of_ne_nil (splitBlank_ne_nil s)
  rw [splitBlank.eq_def]
  split
  · simp_all
  · simp_all
  · rename_i c' cs hnot heq
    simp only [List.cons.injEq] at heq
    obtain ⟨rfl, rfl⟩ := heq
    simp [e]

theorem splitBlank_cons_of_ne {c : Char} (hc : c ≠ '\n') (s : Str) :
    splitBlank (c :: s) = (c :: (splitBlank s).headD []) :: (splitBlank s).tail :=
  splitBlank_cons fun e => absurd e hc

theorem splitBlank_nl_cons_of_ne {c : Char} (hc : c ≠ '\n') (s : Str) :
    splitBlank ('\n' :: c :: s) =
      ('\n' :: (splitBlank (c :: s)).headD []) :: (splitBlank (c :: s)).tail :=
  splitBlank_cons fun _ => by simpa using hc

theorem splitBlank_nl_nl (s : Str) : splitBlank ('\n' :: '\n' :: s) = [] :: splitBlank s := by
  rw [splitBlank]

theorem splitBlank_passes_line {l : Str} (h : '\n' ∉ l) : Passes splitBlank l :=
  .of_chars splitBlank_ne_nil fun _ hc => splitBlank_cons_of_ne fun e => h (e ▸ hc)

/-- no blank line begins inside a block of non-empty lines or at its end, whatever follows -/
theorem splitBlank_passes_block {ls : List Str} (h : ∀ l ∈ ls, l ≠ [] ∧ '\n' ∉ l) :
    Passes splitBlank (joinWith ['\n'] ls) := by
  induction ls with
  | nil => exact splitBlank_passes_line (l := []) (by simp)
  | cons x xs ih =>
    cases xs with
    | nil => exact splitBlank_passes_line (h x (by simp)).2
    | cons y ys =>
      obtain ⟨d, t, ht, hd⟩ : ∃ d t, joinWith ['\n'] (y :: ys) = d :: t ∧ d ≠ '\n' := by
        obtain ⟨hy, hyn⟩ := h y (by simp)
        obtain ⟨d, ds, rfl⟩ := List.exists_cons_of_ne_nil hy
        rw [joinWith_cons]
        exact ⟨d, _, rfl, fun e => hyn (by simp [e])⟩
      have ih := ih fun l hl => h l (by simp [hl])
      rw [joinWith_cons_cons, List.append_assoc, List.singleton_append]
      refine (splitBlank_passes_line (h x (by simp)).2).append fun b => ?_
      rw [ht] at ih ⊢
      rw [List.cons_append, List.cons_append, splitBlank_nl_cons_of_ne hd, ← List.cons_append, ih]
      rfl

theorem splitBlank_joinWith {blocks : List (List Str)} (hne : blocks ≠ [])
    (h : ∀ b ∈ blocks, ∀ l ∈ b, l ≠ [] ∧ '\n' ∉ l) :
    splitBlank (joinWith ['\n', '\n'] (blocks.map (joinWith ['\n']))) = blocks.map (joinWith ['\n']) :=
  split_joinWith_of_passes rfl splitBlank_nl_nl (by simpa using hne)
    (List.forall_mem_map.2 fun b hb => splitBlank_passes_block (h b hb))

/-! ### splitWs -/

theorem splitWs_go_nospace {s : Str} (h : ∀ c ∈ s, isSpace c = false) (cur rest : Str) :
    splitWs.go (s ++ rest) cur = splitWs.go rest (s.reverse ++ cur) := by
  induction s generalizing cur with
  | nil => rfl
  | cons c cs ih =>
    simp only [List.mem_cons, forall_eq_or_imp] at h
    simp only [List.cons_append, splitWs.go, h.1, Bool.false_eq_true, if_false]
    rw [ih h.2]; simp

def IsWord (w : Str) : Prop := w ≠ [] ∧ ∀ c ∈ w, isSpace c = false

theorem splitWs_word {w : Str} (h : IsWord w) : splitWs w = [w] := by
  have := splitWs_go_nospace h.2 [] []
  rw [List.append_nil] at this
  rw [splitWs, this]
  simp [splitWs.go, h.1]

theorem splitWs_word_sep {sep : Char} (hs : isSpace sep = true) {w : Str} (h : IsWord w) (rest : Str) :
    splitWs (w ++ [sep] ++ rest) = w :: splitWs rest := by
  unfold splitWs
  rw [List.append_assoc, splitWs_go_nospace h.2]
  simp [splitWs.go, hs, h.1]

theorem splitWs_joinWith {sep : Char} (hs : isSpace sep = true) {ws : List Str}
    (h : ∀ w ∈ ws, IsWord w) : splitWs (joinWith [sep] ws) = ws := by
  cases ws with
  | nil => rfl
  | cons w ws =>
    exact split_joinWith (fun _ => splitWs_word) (fun _ b ha => splitWs_word_sep hs ha b) (by simp) h

/-! ### ljust -/

theorem ljust_length (c : Str) : ljust c.length c = c := by simp [ljust]

theorem ljust_nil (w : Nat) : ljust w [] = List.replicate w ' ' := by simp [ljust]

theorem length_ljust_max (w : Nat) (s : Str) : (ljust w s).length = max w s.length := by
  simp only [ljust, List.length_append, List.length_replicate]
  omega

theorem length_ljust {w : Nat} {s : Str} (h : s.length ≤ w) : (ljust w s).length = w := by
  rw [length_ljust_max, Nat.max_eq_left h]

theorem mem_ljust {ch : Char} {w : Nat} {c : Str} (h : ch ∈ ljust w c) : ch ∈ c ∨ ch = ' ' := by
  simp only [ljust, List.mem_append, List.mem_replicate] at h
  tauto

theorem not_mem_ljust {ch : Char} (hsp : ch ≠ ' ') {w : Nat} {s : Str} (h : ch ∉ s) : ch ∉ ljust w s :=
  fun hc => (mem_ljust hc).elim h hsp

theorem zip_ljust_self (p : List Str) :
    ((p.map (·.length)).zip p).map (fun (w, c) => ljust w c) = p := by
  induction p with
  | nil => rfl
  | cons x xs ih => simp only [List.map_cons, List.zip_cons_cons, ljust_length, ih]

/-! ### decimal numbers -/

/-- the digits 48..57 lie in the gap of `pyWhitespace` between 0x20 and 0x85 -/
theorem isSpace_of_isDigit {c : Char} (h : c.isDigit = true) : isSpace c = false := by
  have key : ∀ m ∈ pyWhitespace, m ≤ 32 ∨ 133 ≤ m := by decide
  simp only [Char.isDigit, Bool.and_eq_true, decide_eq_true_eq] at h
  have h1 : 48 ≤ c.toNat := UInt32.le_iff_toNat_le.1 h.1
  have h2 : c.toNat ≤ 57 := UInt32.le_iff_toNat_le.1 h.2
  rw [isSpace, List.contains_eq_mem, decide_eq_false_iff_not]
  intro hm
  have := key _ hm
  omega

theorem isDigit_toString (n : Nat) : ∀ c ∈ (toString n).toList, c.isDigit = true := by
  intro c hc
  simp only [Nat.toString_eq_repr, Nat.toList_repr] at hc
  exact Nat.isDigit_of_mem_toDigits (by decide) (by decide) hc

theorem toString_nat_ne_nil (n : Nat) : (toString n).toList ≠ [] := by
  simp

theorem isWord_toString (n : Nat) : IsWord (toString n).toList :=
  ⟨toString_nat_ne_nil n, fun c hc => isSpace_of_isDigit (isDigit_toString n c hc)⟩

theorem isWord_of_parseNat? {s : Str} {n : Nat} (h : parseNat? s = some n) : IsWord s := by
  unfold parseNat? at h
  split at h
  · cases h
  · next hc =>
    simp only [Bool.or_eq_true, Bool.not_eq_true', not_or, Bool.not_eq_false, List.all_eq_true,
      List.isEmpty_iff] at hc
    exact ⟨hc.1, fun c hm => isSpace_of_isDigit (hc.2 c hm)⟩

theorem nl_not_mem_toString (n : Nat) : '\n' ∉ (toString n).toList := fun h => by
  simpa [isSpace_nl] using (isWord_toString n).2 _ h

theorem foldl_toString_nat (n : Nat) :
    (toString n).toList.foldl (fun a c => 10 * a + (c.toNat - 48)) 0 = n := by
  have := Nat.ofDigitChars_ten_toDigits (n := n)
  rwa [Nat.ofDigitChars_eq_foldl, ← Nat.toList_repr] at this

theorem toDigits_head_ne_zero (n : Nat) (hn : 0 < n) : (Nat.toDigits 10 n).head? ≠ some '0' := by
  induction n using Nat.strong_induction_on with
  | _ n ih =>
    by_cases h : n < 10
    · rw [Nat.toDigits_of_lt_base h]
      simpa using Nat.ne_of_gt hn
    · rw [Nat.toDigits_of_base_le (by decide) (Nat.le_of_not_lt h),
        List.head?_append_of_ne_nil _ Nat.toDigits_ne_nil]
      exact ih (n / 10) (Nat.div_lt_self hn (by decide)) (Nat.div_pos (Nat.le_of_not_lt h) (by decide))

theorem parseNat?_toString (n : Nat) : parseNat? (toString n).toList = some n := by
  have hne : (toString n).toList.isEmpty = false := by simp
  have hall : (toString n).toList.all Char.isDigit = true := List.all_eq_true.2 (isDigit_toString n)
  simp only [parseNat?, hne, hall]
  simpa using foldl_toString_nat n

/-! ### `seqOpt` -/

theorem seqOpt_map_of {α β : Type} {f : α → Option β} {g : α → β} {l : List α}
    (h : ∀ x ∈ l, f x = some (g x)) : seqOpt (l.map f) = some (l.map g) := by
  induction l with
  | nil => rfl
  | cons a l ih =>
    rw [List.map_cons, h a (by simp), seqOpt, ih (fun x hx => h x (by simp [hx]))]
    rfl

theorem seqOpt_map_some {α : Type} (l : List α) : seqOpt (l.map some) = some l := by
  simpa using seqOpt_map_of (f := some) (g := id) (l := l) fun _ _ => rfl

theorem seqOpt_map_map_of {α β γ : Type} {e : α → β} {f : β → Option γ} {g : α → γ} {l : List α}
    (h : ∀ x ∈ l, f (e x) = some (g x)) : seqOpt ((l.map e).map f) = some (l.map g) := by
  rw [List.map_map]; exact seqOpt_map_of h

theorem seqOpt_map_map_id {α β : Type} {e : α → β} {f : β → Option α} {l : List α}
    (h : ∀ x ∈ l, f (e x) = some x) : seqOpt ((l.map e).map f) = some l :=
  (seqOpt_map_map_of (g := id) h).trans (congrArg some (List.map_id l))

end FCA
