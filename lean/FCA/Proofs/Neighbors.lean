import FCA.Model.Lindig
import FCA.Proofs.Closure
import FCA.Proofs.Members
/-
`lindig.neighbors` of the model yields every upper cover of a closed extent exactly once, each with
its intent: the loop accepts exactly the good generators (`IsClo.test_iff_good`).
-/
namespace FCA
open Classical IsClo

/-- `D` is an upper cover of `G` in the concept lattice of `K` (on extents; only `D` is asked to be closed, a statement that
needs `G` closed says so beside it); by unfolding `closedObj` this is `IsClo.Covers K.n K.doubleObj G D`, and the two are
used for each other -/
def covers (K : Ctx) (G D : Nat) : Prop :=
  closedObj K D ∧ G ⊆ᵇ D ∧ G ≠ D ∧ ∀ X, closedObj K X → G ⊆ᵇ X → X ⊆ᵇ D → X = G ∨ X = D

def nbPair (K : Ctx) (G g : Nat) : Nat × Nat :=
  (K.doubleObj (G ||| 2 ^ g), K.intentOf (K.doubleObj (G ||| 2 ^ g)))

/-- walking through all indexes `b, …, b + d - 1`, candidates or not, makes the index reached the bound
`test_iff_good` asks for -/
theorem neighborsLoop_spec {K : Ctx} (h : K.WF) {G : Nat} (hG : closedObj K G) :
    ∀ (d b min : Nat) (acc : List (Nat × Nat)), b + d = K.n →
      (∀ i, i ∈ᵇ min ↔ (i < K.n ∧ ¬ i ∈ᵇ G) ∧ (i < b → Good K.n K.doubleObj G i)) →
      neighborsLoop K G ((List.range' b d).filter fun i => (andNot (full K.n) G).testBit i) min acc =
        acc.reverse ++ (((List.range' b d).filter fun i => (andNot (full K.n) G).testBit i).filter
          fun g => Good K.n K.doubleObj G g).map (nbPair K G) := by
  intro d
  induction d with
  | zero => intro _ _ acc _ _; simp [neighborsLoop]
  | succ d ih =>
    intro b min acc hbd I
    have hbn : b < K.n := by omega
    have hbd' : b + 1 + d = K.n := by omega
    rw [List.range'_succ]
    by_cases hc : b ∈ᵇ andNot (full K.n) G
    · have hbG : ¬ b ∈ᵇ G := (mem_andNot.mp hc).2
      have htest := (isClo_doubleObj h).test_iff_good hG.2 hbn hbG I
      rw [List.filter_cons_of_pos (show (andNot (full K.n) G).testBit b = true from hc), neighborsLoop]
      simp only [dpObj_eq h (bounded_or_pow hG.1 hbn), ne_eq, htest, ite_not]
      by_cases hgood : Good K.n K.doubleObj G b
      · rw [if_pos hgood, ih (b + 1) min _ hbd', List.filter_cons_of_pos (by simpa using hgood)]
        · simp [nbPair]
        · intro i
          rw [I i, Nat.lt_succ_iff_lt_or_eq]
          exact and_congr_right fun _ => ⟨fun hp hq => hq.elim hp fun e => e ▸ hgood, fun hp hq => hp (.inl hq)⟩
      · rw [if_neg hgood, ih (b + 1) _ _ hbd', List.filter_cons_of_neg (by simpa using hgood)]
        intro i
        rw [mem_andNot, mem_pow, I i, and_assoc, Nat.lt_succ_iff_lt_or_eq]
        exact and_congr_right fun _ => ⟨fun hp hq => hq.elim hp.1 fun e => absurd e hp.2,
          fun hp => ⟨fun hq => hp (.inl hq), fun e => hgood (e ▸ hp (.inr e))⟩⟩
    · -- not a candidate: nothing to do, and no candidate is `b`
      rw [List.filter_cons_of_neg (show ¬ (andNot (full K.n) G).testBit b = true from hc)]
      refine ih (b + 1) min acc hbd' fun i => (I i).trans (and_congr_right fun hi => ?_)
      have hib : i ≠ b := fun e => hc (mem_andNot.mpr ⟨mem_full.mpr hbn, e ▸ hi.2⟩)
      rw [Nat.lt_succ_iff_lt_or_eq, or_iff_left hib]

/-- the yield of `lindig.neighbors` in closed form: the good generators among the candidates, in order -/
theorem neighbors_eq {K : Ctx} (h : K.WF) {G : Nat} (hG : closedObj K G) :
    neighbors K G = ((membersW K.n (andNot (full K.n) G)).filter fun g => Good K.n K.doubleObj G g).map (nbPair K G) := by
  unfold neighbors
  simp only [membersW_eq, List.range_eq_range']
  exact neighborsLoop_spec h hG K.n 0 _ [] (Nat.zero_add _) fun i => by rw [mem_andNot, mem_full]; simp

theorem neighbors_nodup {K : Ctx} (h : K.WF) {G : Nat} (hG : closedObj K G) : ((neighbors K G).map Prod.fst).Nodup := by
  rw [neighbors_eq h hG, List.map_map]
  refine List.Nodup.map_on (fun g hg g' hg' e => ?_) ((membersW_nodup _ _).filter _)
  exact good_unique (isClo_doubleObj h) hG.2 (by simpa using (List.mem_filter.mp hg).2)
    (by simpa using (List.mem_filter.mp hg').2) e

/-- C05 kernel -/
theorem mem_neighbors_fst {K : Ctx} (h : K.WF) {G : Nat} (hG : closedObj K G) {D : Nat} :
    D ∈ (neighbors K G).map Prod.fst ↔ covers K G D := by
  have C := isClo_doubleObj h
  rw [neighbors_eq h hG, List.map_map]
  simp only [List.mem_map, List.mem_filter, decide_eq_true_eq, Function.comp, nbPair, mem_membersW, mem_andNot, mem_full]
  exact ⟨fun ⟨g, hg, e⟩ => e ▸ C.covers_of_good hG.2 hg.2, fun hD =>
    (C.exists_good_of_covers hG.2 hD).imp fun g hg => ⟨⟨⟨hg.1.lt, hg.1.lt, hg.1.not_mem⟩, hg.1⟩, hg.2⟩⟩

theorem neighbors_snd {K : Ctx} (h : K.WF) {G : Nat} (hG : closedObj K G) {p : Nat × Nat} (hp : p ∈ neighbors K G) :
    p.2 = K.intentOf p.1 := by
  rw [neighbors_eq h hG] at hp
  obtain ⟨g, _, rfl⟩ := List.mem_map.mp hp
  rfl

end FCA
