import FCA.Model.Bits
import Mathlib.Data.List.Sort
import FCA.Proofs.Prelude
/- The list functions of the model as the functions of core and Mathlib they are, and the list facts the proofs share;
at the end, how the result of a guarded `Except` computation is read. -/
namespace FCA

/-! ### positions and lengths -/

theorem getD_of_get {E : List Nat} {i a : Nat} (h : E[i]? = some a) : E.getD i 0 = a := by
  simp [h]

theorem get_of_lt {E : List Nat} {i : Nat} (h : i < E.length) : E[i]? = some (E.getD i 0) := by
  simp [h]

theorem lt_of_get {α : Type} {E : List α} {i : Nat} {a : α} (h : E[i]? = some a) : i < E.length :=
  (List.getElem?_eq_some_iff.mp h).fst

theorem pos_inj {E : List Nat} (hnd : E.Nodup) {i j a : Nat} (hi : E[i]? = some a) (hj : E[j]? = some a) :
    i = j :=
  (List.getElem?_inj (lt_of_get hi) hnd).mp (hi.trans hj.symm)

theorem getElem!_mem {α : Type} [Inhabited α] {l : List α} {i : Nat} (h : i < l.length) : l[i]! ∈ l := by
  rw [getElem!_pos l i h]; exact List.getElem_mem h

theorem eq_of_mem_of_length_lt_two {α : Type} {l : List α} (h : l.length < 2) {a b : α} (ha : a ∈ l) (hb : b ∈ l) :
    a = b := by
  obtain _ | ⟨c, _ | _⟩ := l
  · exact absurd ha List.not_mem_nil
  · exact (List.mem_singleton.mp ha).trans (List.mem_singleton.mp hb).symm
  · exact absurd h (Nat.not_lt.mpr (Nat.le_add_left 2 _))

theorem length_le_of_nodup_bound {N : Nat} {l : List Nat} (hn : l.Nodup) (hb : ∀ x ∈ l, x < N) : l.length ≤ N :=
  List.length_range (n := N) ▸ hn.length_le_of_subset fun x hx => List.mem_range.mpr (hb x hx)

/-! ### `indexOf?` -/

theorem indexOf?_eq_idxOf? (x : Nat) (l : List Nat) : indexOf? x l = l.idxOf? x := by
  induction l with
  | nil => rfl
  | cons y ys ih => simp [indexOf?, List.idxOf?_cons, ih]

theorem indexOf?_some_get {x : Nat} {l : List Nat} {k : Nat} (h : indexOf? x l = some k) : l[k]? = some x := by
  rw [indexOf?_eq_idxOf?, List.idxOf?_eq_some_iff] at h
  obtain ⟨hk, hx, _⟩ := h
  rw [List.getElem?_eq_getElem hk, hx]

theorem indexOf?_some_lt {x : Nat} {l : List Nat} {k : Nat} (h : indexOf? x l = some k) : k < l.length :=
  lt_of_get (indexOf?_some_get h)

theorem indexOf?_of_mem {x : Nat} {l : List Nat} (h : x ∈ l) : ∃ k, indexOf? x l = some k := by
  rw [indexOf?_eq_idxOf?, ← Option.isSome_iff_exists]
  exact List.isSome_idxOf?.mpr h

theorem indexOf?_eq_none {x : Nat} {l : List Nat} (h : x ∉ l) : indexOf? x l = none := by
  rw [indexOf?_eq_idxOf?]; exact List.idxOf?_eq_none_iff.mpr h

theorem indexOf?_get_nodup {l : List Nat} (hnd : l.Nodup) {k : Nat} {x : Nat} (h : l[k]? = some x) :
    indexOf? x l = some k := by
  obtain ⟨hk, rfl⟩ := List.getElem?_eq_some_iff.mp h
  rw [indexOf?_eq_idxOf?, List.idxOf?_eq_some_iff]
  exact ⟨hk, rfl, fun j hj e => absurd ((hnd.getElem_inj_iff).mp e) (Nat.ne_of_lt hj)⟩

/-! ### sorting by a key

The insertion sorts of the model (`sortBy`, `sortStable`, `sortRel`) are Mathlib's `List.insertionSort` for the relation
"`key a ≤ key b`". -/

section byKey
variable {α β : Type} [LinearOrder β] (key : α → β)

theorem foldr_eq_insertionSort {ins : α → List α → List α}
    (h : ∀ x l, ins x l = l.orderedInsert (key ⁻¹'o (· ≤ ·)) x) (l : List α) :
    l.foldr ins [] = l.insertionSort (key ⁻¹'o (· ≤ ·)) := by
  rw [List.insertionSort]; congr 1; funext x l; exact h x l

theorem pairwise_insertionSort_key (l : List α) :
    (l.insertionSort (key ⁻¹'o (· ≤ ·))).Pairwise (fun a b => key a ≤ key b) :=
  List.pairwise_insertionSort (key ⁻¹'o (· ≤ ·)) l

/-- insertion sort is stable: the elements of one key keep their order -/
theorem filter_insertionSort_key (k : β) (l : List α) :
    (l.insertionSort (key ⁻¹'o (· ≤ ·))).filter (fun a => decide (key a = k)) =
      l.filter (fun a => decide (key a = k)) := by
  have hs : (l.filter fun a => decide (key a = k)).Pairwise (key ⁻¹'o (· ≤ ·)) := by
    refine List.pairwise_of_forall_mem_list fun a ha b hb => ?_
    rw [List.mem_filter, decide_eq_true_eq] at ha hb
    exact le_of_eq (ha.2.trans hb.2.symm)
  have h1 := (List.sublist_insertionSort hs List.filter_sublist).filter (fun a => decide (key a = k))
  simp only [List.filter_filter, Bool.and_self] at h1
  exact (h1.eq_of_length ((List.perm_insertionSort _ l).filter _).length_eq.symm).symm

end byKey

theorem insertBy_eq (key : Nat → Nat) (x : Nat) (l : List Nat) :
    insertBy key x l = l.orderedInsert (key ⁻¹'o (· ≤ ·)) x := by
  induction l with
  | nil => rfl
  | cons y ys ih => rw [insertBy, List.orderedInsert_cons, ← ih]; rfl

theorem sortBy_eq (key : Nat → Nat) (l : List Nat) : sortBy key l = l.insertionSort (key ⁻¹'o (· ≤ ·)) := by
  rw [← foldr_eq_insertionSort key (insertBy_eq key)]
  induction l with
  | nil => rfl
  | cons x xs ih => rw [sortBy, ih, List.foldr_cons]

theorem sortBy_perm (key : Nat → Nat) (l : List Nat) : (sortBy key l).Perm l :=
  sortBy_eq key l ▸ List.perm_insertionSort _ l

theorem mem_sortBy (key : Nat → Nat) (l : List Nat) (x : Nat) : x ∈ sortBy key l ↔ x ∈ l :=
  (sortBy_perm key l).mem_iff

theorem sortBy_sorted (key : Nat → Nat) (l : List Nat) : (sortBy key l).Pairwise (fun a b => key a ≤ key b) :=
  sortBy_eq key l ▸ pairwise_insertionSort_key key l

theorem sortBy_nodup (key : Nat → Nat) {l : List Nat} (h : l.Nodup) : (sortBy key l).Nodup :=
  (sortBy_perm key l).nodup_iff.mpr h

theorem sortBy_strict (key : Nat → Nat) {l : List Nat} (hnd : l.Nodup)
    (hinj : ∀ a ∈ l, ∀ b ∈ l, key a = key b → a = b) :
    (sortBy key l).Pairwise (fun a b => key a < key b) := by
  refine ((sortBy_sorted key l).and (sortBy_nodup key hnd)).imp_of_mem fun ha hb h => ?_
  exact lt_of_le_of_ne h.1 fun e => h.2 (hinj _ ((mem_sortBy ..).mp ha) _ ((mem_sortBy ..).mp hb) e)

theorem sortBy_of_sorted (key : Nat → Nat) {l : List Nat} (h : l.Pairwise (fun a b => key a ≤ key b)) :
    sortBy key l = l :=
  sortBy_eq key l ▸ List.Pairwise.insertionSort_eq h

/-! ### `minBy` -/

theorem minBy_spec (key : Nat → Nat) (l : List Nat) :
    (l = [] ∧ minBy key l = none) ∨ ∃ c, minBy key l = some c ∧ c ∈ l ∧ ∀ x ∈ l, key c ≤ key x := by
  induction l with
  | nil => left; simp [minBy]
  | cons a l ih =>
    right
    rcases ih with ⟨rfl, h⟩ | ⟨b, hb, hbl, hmin⟩
    · exact ⟨a, by rw [minBy, h], List.mem_cons_self, fun x hx => (List.mem_singleton.mp hx) ▸ le_rfl⟩
    · simp only [minBy, hb]
      by_cases h : key b < key a
      · refine ⟨b, if_pos h, List.mem_cons_of_mem a hbl, ?_⟩
        intro x hx
        rcases List.mem_cons.mp hx with rfl | hx
        · exact le_of_lt h
        · exact hmin x hx
      · refine ⟨a, if_neg h, List.mem_cons_self, ?_⟩
        intro x hx
        rcases List.mem_cons.mp hx with rfl | hx
        · exact le_rfl
        · exact le_trans (not_lt.mp h) (hmin x hx)

/-! ### lists strictly sorted by a key -/

theorem nodup_of_strict {key : Nat → Nat} {l : List Nat} (h : l.Pairwise (fun a b => key a < key b)) : l.Nodup :=
  h.imp (fun hlt heq => by rw [heq] at hlt; exact lt_irrefl _ hlt)

theorem key_inj_of_strict {key : Nat → Nat} {t : List Nat} (hs : t.Pairwise (fun a b => key a < key b)) :
    ∀ a ∈ t, ∀ b ∈ t, key a = key b → a = b := by
  intro a ha b hb hab
  by_contra hne
  have : Std.Symm (fun a b : Nat => key a ≠ key b) := ⟨fun _ _ h => Ne.symm h⟩
  exact (hs.imp Nat.ne_of_lt).forall ha hb hne hab

theorem strict_unique {key : Nat → Nat} {l₁ l₂ : List Nat}
    (h₁ : l₁.Pairwise (fun a b => key a < key b)) (h₂ : l₂.Pairwise (fun a b => key a < key b))
    (hm : ∀ x, x ∈ l₁ ↔ x ∈ l₂) : l₁ = l₂ :=
  ((List.perm_ext_iff_of_nodup (nodup_of_strict h₁) (nodup_of_strict h₂)).mpr hm).eq_of_pairwise
    (le := fun a b => key a < key b) (fun a b _ _ hab hba => by omega) h₁ h₂

theorem sortBy_eq_of_perm {key : Nat → Nat} {l t : List Nat} (hp : l.Perm t)
    (hs : t.Pairwise (fun a b => key a < key b)) : sortBy key l = t :=
  strict_unique
    (sortBy_strict key (hp.nodup_iff.mpr (nodup_of_strict hs)) fun a ha b hb =>
      key_inj_of_strict hs a (hp.mem_iff.mp ha) b (hp.mem_iff.mp hb))
    hs fun x => (mem_sortBy key l x).trans hp.mem_iff

theorem key_lt_of_pos_lt {key : Nat → Nat} {E : List Nat} (h : E.Pairwise (fun a b => key a < key b))
    {i j a b : Nat} (hi : E[i]? = some a) (hj : E[j]? = some b) (hij : i < j) : key a < key b := by
  obtain ⟨hi', rfl⟩ := List.getElem?_eq_some_iff.mp hi
  obtain ⟨hj', rfl⟩ := List.getElem?_eq_some_iff.mp hj
  exact List.pairwise_iff_getElem.mp h i j hi' hj' hij

theorem pos_lt_iff {key : Nat → Nat} {E : List Nat} (h : E.Pairwise (fun a b => key a < key b))
    {i j a b : Nat} (hi : E[i]? = some a) (hj : E[j]? = some b) : i < j ↔ key a < key b := by
  refine ⟨key_lt_of_pos_lt h hi hj, fun hk => ?_⟩
  rcases Nat.lt_trichotomy i j with hlt | rfl | hgt
  · exact hlt
  · rw [hi] at hj; cases hj; exact absurd hk (lt_irrefl _)
  · exact absurd (key_lt_of_pos_lt h hj hi hgt) (lt_asymm hk)

theorem countP_of_sorted {key : Nat → Nat} {l : List Nat} (hs : l.Pairwise (fun a b => key a < key b)) {p x : Nat}
    (hp : l[p]? = some x) : l.countP (fun y => decide (key y < key x)) = p := by
  induction l generalizing p with
  | nil => simp at hp
  | cons a l ih =>
    rw [List.pairwise_cons] at hs
    cases p with
    | zero =>
      simp only [List.getElem?_cons_zero, Option.some.injEq] at hp
      subst hp
      rw [List.countP_cons_of_neg (by rw [decide_eq_true_eq]; exact lt_irrefl _), List.countP_eq_zero]
      intro y hy
      rw [decide_eq_true_eq]
      exact lt_asymm (hs.1 y hy)
    | succ p =>
      simp only [List.getElem?_cons_succ] at hp
      have hx : x ∈ l := List.mem_of_getElem? hp
      rw [List.countP_cons_of_pos (by simpa using hs.1 x hx), ih hs.2 hp]

/-! ### enumeration by position -/

/-- enumeration by position: what `[f k x for k, x in enumerate(l)]` computes -/
theorem filterMap_range_eq_zipIdx_map {α β : Type} (l : List α) (f : Nat → α → β) :
    (List.range l.length).filterMap (fun k => (l[k]?).map (f k)) = l.zipIdx.map (fun p => f p.2 p.1) := by
  induction l generalizing f with
  | nil => rfl
  | cons a l ih =>
    rw [List.length_cons, List.range_succ_eq_map, List.filterMap_cons, List.filterMap_map,
      List.zipIdx_cons', List.map_cons, List.map_map]
    -- position 0 gives `f 0 a`; the positions `k + 1` are the enumeration of `l` by `fun k => f (k + 1)`
    exact congrArg _ (ih fun k => f (k + 1))

theorem filterMap_range_eq_map {α β : Type} (l : List α) (g : α → β) :
    (List.range l.length).filterMap (fun k => (l[k]?).map g) = l.map g := by
  rw [filterMap_range_eq_zipIdx_map l fun _ => g]
  show l.zipIdx.map (g ∘ Prod.fst) = _
  rw [← List.map_map, List.zipIdx_map_fst]

theorem countP_range_getD (E : List Nat) (p : Nat → Bool) :
    (List.range E.length).countP (fun i => p (E.getD i 0)) = E.countP p := by
  have : (List.range E.length).map (fun i => E.getD i 0) = E :=
    List.ext_getElem (by rw [List.length_map, List.length_range]) fun i h1 h2 => by
      rw [List.getElem_map, List.getElem_range]
      exact Option.some.inj ((get_of_lt h2).symm.trans (List.getElem?_eq_getElem h2))
  conv_rhs => rw [← this, List.countP_map]
  rfl

theorem pairwise_zipIdx_snd {α : Type} (l : List α) (k : Nat) :
    (l.zipIdx k).Pairwise (fun a a' => a.2 < a'.2) :=
  List.pairwise_map.mp (by rw [List.zipIdx_map_snd]; exact List.pairwise_lt_range' 1 Nat.one_pos)

theorem zipIdx_map_eq {α β : Type} {f : α × Nat → β} {g : α → β} (l : List α)
    (h : ∀ a ∈ l, ∀ j, f (a, j) = g a) (k : Nat) : (l.zipIdx k).map f = l.map g := by
  induction l generalizing k with
  | nil => rfl
  | cons a l ih =>
    rw [List.zipIdx_cons, List.map_cons, List.map_cons, h a (by simp),
      ih (fun b hb j => h b (by simp [hb]) j)]

/-! ### zips -/

theorem exists_rows {α β : Type} {as : List α} {bs : List β} (h : bs.length = as.length) :
    ∃ xs : List (α × β), as = xs.map (·.1) ∧ bs = xs.map (·.2) ∧ as.zip bs = xs :=
  ⟨as.zip bs, (List.map_fst_zip (by omega)).symm, (List.map_snd_zip (by omega)).symm, rfl⟩

theorem map_eq_of_zip {α β : Type} {l : List α} {vs : List β} {f : α → β} (hl : l.length = vs.length)
    (h : ∀ x v, (x, v) ∈ l.zip vs → f x = v) : l.map f = vs := by
  conv_lhs => rw [← List.map_fst_zip (l₂ := vs) hl.le, List.map_map]
  conv_rhs => rw [← List.map_snd_zip (l₁ := l) hl.ge]
  exact List.map_congr_left fun x hx => h x.1 x.2 hx

theorem zip_right_unique {α β : Type} {l : List α} {vs : List β} (hn : l.Nodup) (hl : l.length = vs.length)
    {x : α} {v v' : β} (h : (x, v) ∈ l.zip vs) (h' : (x, v') ∈ l.zip vs) : v = v' := by
  have hk : ((l.zip vs).map Prod.fst).Nodup := by rwa [List.map_fst_zip hl.le]
  exact (Prod.mk.inj (List.inj_on_of_nodup_map hk h h' rfl)).2

/-! ### `map`, `filter`, `filterMap`, `flatMap` -/

theorem map_map_of {α β γ : Type} {f : α → β} {g : β → γ} {h : α → γ} {l : List α}
    (H : ∀ x ∈ l, g (f x) = h x) : (l.map f).map g = l.map h := by
  rw [List.map_map]; exact List.map_congr_left H

theorem contains_eq_of_iff {α β : Type} [BEq α] [LawfulBEq α] [BEq β] [LawfulBEq β] {l : List α} {l' : List β}
    {x : α} {y : β} (h : x ∈ l ↔ y ∈ l') : l.contains x = l'.contains y := by
  rw [Bool.eq_iff_iff, List.contains_iff_mem, List.contains_iff_mem]; exact h

/-- relabelling the elements that satisfy `P`: the others stay, the images come in -/
theorem mem_map_ite {α : Type} {P : α → Bool} {g : α → α} {l : List α} {y : α} :
    y ∈ l.map (fun c => if P c then g c else c) ↔ (y ∈ l ∧ P y = false) ∨ ∃ c ∈ l, P c = true ∧ g c = y := by
  rw [List.mem_map]
  constructor
  · rintro ⟨c, hc, rfl⟩
    by_cases hP : P c = true
    · rw [if_pos hP]; exact Or.inr ⟨c, hc, hP, rfl⟩
    · rw [if_neg hP]; exact Or.inl ⟨hc, Bool.eq_false_iff.mpr hP⟩
  · rintro (⟨hy, hP⟩ | ⟨c, hc, hP, rfl⟩)
    · exact ⟨y, hy, if_neg (Bool.eq_false_iff.mp hP)⟩
    · exact ⟨c, hc, if_pos hP⟩

theorem map_filter_eq_filterMap {α β : Type} (c : α → Bool) (g : α → β) (l : List α) :
    (l.filter c).map g = l.filterMap fun x => if c x then some (g x) else none := by
  induction l with
  | nil => rfl
  | cons a t ih => by_cases h : c a = true <;> simp [h, ih]

theorem filterMap_ite_eq_filter {α : Type} (c : α → Prop) [DecidablePred c] (l : List α) :
    l.filterMap (fun x => if c x then some x else none) = l.filter (fun x => decide (c x)) := by
  rw [← List.map_id (l.filter _), map_filter_eq_filterMap]
  exact List.filterMap_congr fun x _ => by simp

theorem length_filterMap_ite {α β : Type} (f : α → Bool) (g : α → β) (l : List α) :
    (l.filterMap fun x => if f x then some (g x) else none).length = (l.map f).count true := by
  rw [← map_filter_eq_filterMap, List.length_map, ← List.countP_eq_length_filter, List.count_eq_countP, List.countP_map]
  exact List.countP_congr fun x _ => by simp

theorem filter_concat_decide {α : Type} (q : α → Prop) [DecidablePred q] (l : List α) (a : α) :
    (l ++ [a]).filter (fun d => decide (q d)) = l.filter (fun d => decide (q d)) ++ if q a then [a] else [] := by
  rw [List.filter_append, List.filter_singleton]
  by_cases h : q a <;> simp [h]

theorem flatMap_filter {α β : Type} (p : α → Bool) (f : α → List β) (l : List α) :
    (l.filter p).flatMap f = l.flatMap fun a => if p a then f a else [] := by
  induction l with
  | nil => rfl
  | cons a t ih => by_cases h : p a = true <;> simp [h, ih]

theorem flatMap_filterMap {α β γ : Type} (f : α → Option β) (g : β → List γ) (l : List α) :
    (l.filterMap f).flatMap g = l.flatMap (fun a => match f a with | none => [] | some b => g b) := by
  induction l with
  | nil => rfl
  | cons a l ih =>
    rw [List.filterMap_cons, List.flatMap_cons]
    cases h : f a with
    | none => simp only [ih]; rfl
    | some b => simp only [List.flatMap_cons, ih]

theorem filter_flatMap_append_singleton {α β : Type} (p : β → Bool) (L : List α) (N : α → List β)
    (R : α → β) (hN : ∀ x ∈ L, ∀ y ∈ N x, p y = false) (hR : ∀ x ∈ L, p (R x) = true) :
    (L.flatMap fun x => N x ++ [R x]).filter p = L.map R := by
  induction L with
  | nil => rfl
  | cons x xs ih =>
    rw [List.flatMap_cons, List.filter_append, List.filter_append,
      List.filter_eq_nil_iff.2 fun y hy => by simp [hN x (by simp) y hy],
      ih (fun y hy => hN y (by simp [hy])) (fun y hy => hR y (by simp [hy])),
      List.filter_cons_of_pos (hR x (by simp))]
    rfl

/-! ### folds of `max` -/

theorem le_foldl_max_iff {α : Type} (f : α → Nat) (l : List α) (a b : Nat) :
    b ≤ l.foldl (fun m r => max m (f r)) a ↔ b ≤ a ∨ ∃ x ∈ l, b ≤ f x := by
  induction l generalizing a with
  | nil => simp
  | cons y ys ih => simp only [List.foldl_cons, ih, le_max_iff, List.exists_mem_cons_iff, or_assoc]

theorem foldl_max_ge {α : Type} (f : α → Nat) (l : List α) (a : Nat) {x : α} (hx : x ∈ l) :
    f x ≤ l.foldl (fun m r => max m (f r)) a :=
  (le_foldl_max_iff f l a _).mpr (.inr ⟨x, hx, le_rfl⟩)

/-! ### a key that occurs once -/

theorem find?_reverse_of_nodup {α β : Type} [DecidableEq β] (f : α → β) (c : β) (l : List α)
    (h : (l.map f).Nodup) :
    l.reverse.find? (fun e => f e == c) = l.find? (fun e => f e == c) := by
  induction l with
  | nil => rfl
  | cons x xs ih =>
    obtain ⟨hx, hxs⟩ := List.nodup_cons.mp (List.map_cons ▸ h)
    rw [List.reverse_cons, List.find?_append, ih hxs, List.find?_cons]
    by_cases hp : f x = c
    · -- `x` is found first from the left; from the right nothing is found before it, the keys being different
      have : xs.find? (fun e => f e == c) = none := List.find?_eq_none.mpr fun y hy hy' =>
        hx (List.mem_map.mpr ⟨y, hy, (beq_iff_eq.mp hy').trans hp.symm⟩)
      simp [hp, this]
    · simp [beq_eq_false_iff_ne.mpr hp]

theorem length_filter_key_eq_one {α β : Type} [DecidableEq β] (f : α → β) {c : β} {l : List α}
    (h : (l.map f).Nodup) (hc : (l.find? (fun e => f e == c)).isSome = true) :
    (l.filter (fun e => f e == c)).length = 1 := by
  obtain ⟨x, hx, hp⟩ := List.find?_isSome.mp hc
  rw [← List.countP_eq_length_filter, ← List.count_eq_one_of_mem h (List.mem_map.mpr ⟨x, hx, beq_iff_eq.mp hp⟩),
    List.count_eq_countP, List.countP_map]
  rfl

/-! ### `eraseDups` -/

theorem nodup_eraseDups {α : Type} [BEq α] [LawfulBEq α] (l : List α) : l.eraseDups.Nodup := by
  induction hn : l.length using Nat.strong_induction_on generalizing l with
  | _ n ih =>
    cases l with
    | nil => simp
    | cons a as =>
      rw [List.eraseDups_cons, List.nodup_cons]
      constructor
      · simp [List.mem_eraseDups]
      · subst hn
        exact ih _ (by
          have := List.length_filter_le (fun b => !b == a) as
          simp only [List.length_cons]; omega) _ rfl

/-- `len(set(r)) == len(r)` -/
theorem eraseDups_length_eq_iff {α : Type} [BEq α] [LawfulBEq α] (l : List α) :
    l.eraseDups.length = l.length ↔ l.Nodup :=
  ⟨fun h => ((List.subperm_of_subset (nodup_eraseDups l) fun _ => List.mem_eraseDups.mp).perm_of_length_le
      h.ge).nodup_iff.mp (nodup_eraseDups l),
    fun h => ((List.perm_ext_iff_of_nodup (nodup_eraseDups l) h).mpr fun _ => List.mem_eraseDups).length_eq⟩

/-! ### reading an `Except` result -/

theorem map_eq_ok_iff {ε α β : Type} {x : Except ε α} {f : α → β} {b : β} :
    x.map f = .ok b ↔ ∃ a, x = .ok a ∧ f a = b := by
  cases x with
  | error e => exact ⟨fun h => (nomatch h), fun ⟨_, h, _⟩ => (nomatch h)⟩
  | ok a => exact ⟨fun h => ⟨a, rfl, Except.ok.inj h⟩, fun ⟨_, h, hb⟩ => Except.ok.inj h ▸ hb ▸ rfl⟩

theorem map_eq_error_iff {ε α β : Type} {x : Except ε α} {f : α → β} {e : ε} :
    x.map f = .error e ↔ x = .error e := by
  cases x with
  | error e' => exact ⟨fun h => Except.error.inj h ▸ rfl, fun h => Except.error.inj h ▸ rfl⟩
  | ok a => exact ⟨fun h => (nomatch h), fun h => (nomatch h)⟩

theorem ite_ok_eq_ok_iff {ε α : Type} {c : Prop} [Decidable c] {v a : α} {e : ε} :
    (if c then Except.ok v else .error e) = .ok a ↔ c ∧ a = v := by
  by_cases h : c
  · rw [if_pos h]; exact ⟨fun h' => ⟨h, (Except.ok.inj h').symm⟩, fun h' => h'.2 ▸ rfl⟩
  · rw [if_neg h]; exact ⟨fun h' => (nomatch h'), fun h' => absurd h'.1 h⟩

theorem ite_ok_eq_error_iff {ε α : Type} {c : Prop} [Decidable c] {v : α} {e e' : ε} :
    (if c then Except.ok v else .error e) = .error e' ↔ ¬ c ∧ e' = e := by
  by_cases h : c
  · rw [if_pos h]; exact ⟨fun h' => (nomatch h'), fun h' => absurd h h'.1⟩
  · rw [if_neg h]; exact ⟨fun h' => ⟨h, (Except.error.inj h').symm⟩, fun h' => h'.2 ▸ rfl⟩

theorem ok_iff_not_error {ε α : Type} (x : Except ε α) : (∃ a, x = .ok a) ↔ ¬∃ e, x = .error e := by
  cases x with
  | error e => exact iff_of_false (fun ⟨_, h⟩ => nomatch h) (fun h => h ⟨e, rfl⟩)
  | ok a => exact iff_of_true ⟨a, rfl⟩ (fun ⟨_, h⟩ => nomatch h)

theorem ite_error_eq_ok_iff {ε α : Type} {c : Prop} [Decidable c] {v a : α} {e : ε} :
    (if c then Except.error e else .ok v) = .ok a ↔ ¬c ∧ a = v := by
  rw [← ite_not]; exact ite_ok_eq_ok_iff

theorem ite_error_eq_error_iff {ε α : Type} {c : Prop} [Decidable c] {v : α} {e e' : ε} :
    (if c then Except.error e else .ok v) = .error e' ↔ c ∧ e' = e := by
  rw [← ite_not, ite_ok_eq_error_iff, Decidable.not_not]

/-- an accepted call with a decidable postcondition, both settled by one evaluation -/
theorem exists_ok_of_decide {ε α : Type} {x : Except ε α} {P : α → Prop} [DecidablePred P]
    (h : (match x with | .ok a => decide (P a) | .error _ => false) = true) : ∃ a, x = .ok a ∧ P a := by
  cases x with
  | error e => cases h
  | ok a => exact ⟨a, rfl, of_decide_eq_true h⟩

theorem exists_ok_pair_of_decide {ε α β : Type} {x : Except ε (α × β)} {P : α → β → Prop}
    [∀ a b, Decidable (P a b)]
    (h : (match x with | .ok (a, b) => decide (P a b) | .error _ => false) = true) :
    ∃ a b, x = .ok (a, b) ∧ P a b := by
  rcases x with e | ⟨a, b⟩
  · cases h
  · exact ⟨a, b, rfl, of_decide_eq_true h⟩

end FCA
