import FCA.Model.FcboStack
import FCA.Proofs.FcboInner
import FCA.Proofs.Prelude
/-
For `Props/C04Stack.lean`: the heap operations, the candidates of the children of `fcboInner`, one pass of the
machine's inner loop as `fcboStep`, and the relation between machine and recursive model (`denot`, kept along a
run by `stackNext`).
-/
namespace FCA

theorem SHeap.read_of_lt {h : SHeap} {r : Nat} (hr : r < h.length) : h.read r = h[r] := by
  simp [SHeap.read, List.getD_eq_getElem?_getD, hr]

theorem SHeap.read_append_of_lt (h t : SHeap) {r : Nat} (hr : r < h.length) : SHeap.read (h ++ t) r = h.read r := by
  rw [SHeap.read, SHeap.read, List.getD_eq_getElem?_getD, List.getD_eq_getElem?_getD, List.getElem?_append_left hr]

theorem SHeap.read_append_length (h : SHeap) (x : Array Nat) : SHeap.read (h ++ [x]) h.length = x := by
  rw [SHeap.read, List.getD_eq_getElem?_getD, List.getElem?_concat_length]; rfl

theorem SHeap.read_set_self {h : SHeap} {r : Nat} (hr : r < h.length) (v : Array Nat) :
    SHeap.read (h.set r v) r = v := by
  simp [SHeap.read, List.getD_eq_getElem?_getD, hr]

theorem SHeap.set_read_self (h : SHeap) (r : Nat) : h.set r (h.read r) = h := by
  by_cases hr : r < h.length
  · rw [SHeap.read_of_lt hr]; exact List.set_getElem_self hr
  · exact List.set_eq_of_length_le (Nat.le_of_not_lt hr)

theorem SHeap.set_append_length (h : SHeap) (x v : Array Nat) : (h ++ [x]).set h.length v = h ++ [v] := by
  simp

theorem SHeap.read_of_prefix {h h' : SHeap} (hp : h <+: h') {r : Nat} (hr : r < h.length) :
    h'.read r = h.read r := by
  obtain ⟨t, rfl⟩ := hp
  exact SHeap.read_append_of_lt h t hr

theorem fcboInner_sublist (S : Side) (nd : FNode) : ∀ (js : List Nat) (sets : Array Nat),
    ((fcboInner S nd js sets []).1.map Prod.fst).Sublist js := by
  intro js
  induction js with
  | nil => intro sets; simp [fcboInner]
  | cons j js ih =>
    intro sets
    rw [fcboInner_cons_nil]
    rcases h : (fcboStep S nd sets j).2 with _ | p
    · simpa using (ih _).cons j
    · simpa [fcboStep_fst S nd sets j p h] using (ih _).cons_cons j

theorem fcboInner_mem_ge {S : Side} {nd : FNode} {idx : Nat} {sets : Array Nat} {p : Nat × FNode}
    (hp : p ∈ (fcboInner S nd (List.range' idx (S.width - idx)).reverse sets []).1) :
    idx ≤ p.1 ∧ p.1 < S.width :=
  mem_range'_sub.mp (List.mem_reverse.mp ((fcboInner_sublist S nd _ sets).subset (List.mem_map_of_mem hp)))

/-- `2 ^ (w - idx - 1) + … + 2 ^ 0 + 1 = 2 ^ (w - idx)` -/
theorem sum_pow_range' (w idx : Nat) :
    ((List.range' idx (w - idx)).map fun j => 2 ^ (w - (j + 1))).sum + 1 = 2 ^ (w - idx) := by
  induction h : w - idx generalizing idx with
  | zero => rfl
  | succ k ih =>
    have hk : w - (idx + 1) = k := by rw [Nat.sub_succ, h]; rfl
    rw [List.range'_succ, List.map_cons, List.sum_cons, Nat.add_assoc, ih (idx + 1) hk, hk, Nat.pow_succ, Nat.mul_two]

/-- a child of `fcboInner` as a stack entry carrying the shared reference -/
def pushed (ref : Nat) (p : Nat × FNode) : SEntry := (p.2, p.1 + 1, ref)

theorem stackInner_cons (S : Side) (nd : FNode) (ref j : Nat) (js : List Nat) (heap : SHeap) (st : List SEntry) :
    stackInner S nd ref (j :: js) heap st =
      stackInner S nd ref js (heap.set ref (fcboStep S nd (heap.read ref) j).1)
        (st ++ (fcboStep S nd (heap.read ref) j).2.toList.map (pushed ref)) := by
  have push := @apply_ite _ _ fun r : Array Nat × Option (Nat × FNode) =>
    stackInner S nd ref js (heap.set ref r.1) (st ++ r.2.toList.map (pushed ref))
  rw [stackInner, fcboStep, push, push, push]
  -- the branches that do not write agree with the one that does: `heap.set ref (heap.read ref) = heap`
  simp only [SHeap.set_read_self, SHeap.setItem, pushed, Option.toList_none, Option.toList_some, List.map_nil,
    List.map_cons, List.append_nil]

/-- the state after popping the top entry `(nd, idx, ref)` off `st`: a leaf just goes; otherwise one new cell
holds the final list of the node's loop and the children are pushed with that cell's address -/
def stackNext (S : Side) (heap : SHeap) (st : List SEntry) (nd : FNode) (idx ref : Nat) : SHeap × List SEntry :=
  if idx = S.width ∨ nd.other = 0 then (heap, st) else
    (heap ++ [(fcboInner S nd (List.range' idx (S.width - idx)).reverse (heap.read ref) []).2],
     st ++ (fcboInner S nd (List.range' idx (S.width - idx)).reverse (heap.read ref) []).1.map (pushed heap.length))

theorem stackStep_nil (S : Side) (heap : SHeap) : stackStep S heap [] = none := by
  simp [stackStep]

theorem stackRun_nil (S : Side) (fuel : Nat) (heap : SHeap) : stackRun S fuel heap [] = [] := by
  cases fuel <;> simp [stackRun, stackStep_nil]

theorem stackAfter_nil (S : Side) (fuel : Nat) (heap : SHeap) : stackAfter S fuel heap [] = (heap, []) := by
  cases fuel <;> simp [stackAfter, stackStep_nil]

theorem stackNext_prefix (S : Side) (heap : SHeap) (st : List SEntry) (nd : FNode) (idx ref : Nat) :
    heap <+: (stackNext S heap st nd idx ref).1 := by
  unfold stackNext
  split_ifs
  · exact List.prefix_refl _
  · exact List.prefix_append _ _

/-- every reference on the stack points into the heap -/
def SValid (heap : SHeap) (st : List SEntry) : Prop := ∀ e ∈ st, e.2.2 < heap.length

instance (heap : SHeap) (st : List SEntry) : Decidable (SValid heap st) := by unfold SValid; infer_instance

theorem SValid.of_concat {heap : SHeap} {st : List SEntry} {e : SEntry} (hv : SValid heap (st ++ [e])) :
    SValid heap st := fun x hx => hv x (List.mem_append_left _ hx)

theorem SValid.next (S : Side) {heap : SHeap} {st : List SEntry} (nd : FNode) (idx ref : Nat)
    (hv : SValid heap st) : SValid (stackNext S heap st nd idx ref).1 (stackNext S heap st nd idx ref).2 := by
  unfold stackNext
  split_ifs
  · exact hv
  · intro e he
    rw [List.length_append]
    rcases List.mem_append.1 he with h | h
    · exact Nat.lt_succ_of_lt (hv e h)
    · obtain ⟨p, _, rfl⟩ := List.mem_map.1 h
      exact Nat.lt_succ_self _

/-- the output the recursive model assigns to a machine state: top of the stack (= end of the list) first, every
entry with the current contents of its cell -/
def denot (S : Side) (heap : SHeap) (st : List SEntry) : List FNode :=
  st.reverse.flatMap fun e => fcboNode S S.width e.1 e.2.1 (heap.read e.2.2)

theorem denot_nil (S : Side) (heap : SHeap) : denot S heap [] = [] := rfl

theorem denot_append (S : Side) (heap : SHeap) (st1 st2 : List SEntry) :
    denot S heap (st1 ++ st2) = denot S heap st2 ++ denot S heap st1 := by
  simp [denot, List.flatMap_append]

theorem denot_frame (S : Side) (heap t : SHeap) (st : List SEntry) (hv : SValid heap st) :
    denot S (heap ++ t) st = denot S heap st := by
  unfold denot
  apply List.flatMap_congr
  intro e he
  rw [SHeap.read_append_of_lt heap t (hv e (List.mem_reverse.1 he))]

end FCA
