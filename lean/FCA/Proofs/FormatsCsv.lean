import FCA.Proofs.FormatsStr
/-
The csv reader (`csvRead`, a model of `csv.reader` with the excel dialect fed by the lines of an
`io.StringIO`) reads back what *any* RFC 4180 writer emits (`csvTextQ`: every field may be quoted,
records end in CR LF or LF), in particular what `csv.writer` (`csvRow`, `QUOTE_MINIMAL`) emits.

`csvRecords` follows `Reader_iternext` line by line. The proofs use the same computation as one run
over the characters (`csvRun`, `EOL` after every line feed, the records yielded so far beside the
state), so that the run over `a ++ b` goes on after `a`; only the end of the text (`csvEnd`) has to
know whether the last line lacks its line feed. What other files use stands at the end:
`csvRead_textQ(_append)`, `csvRead_textQ_open`, `csvRead_blank`, `csvRead_field_too_long`, and for
`csv.writer`'s own text `csvRead_rows(_append)`.
-/
namespace FCA

/-- the end-of-line event; a record that it completes is yielded and the reader starts afresh -/
def csvEol (s : CsvSt) : Option (List (List Str) × CsvSt) :=
  (csvChar s none).map fun s' => if s'.state == .startRecord then ([s'.row], .init) else ([], s')

def csvStep (s : CsvSt) (c : Char) : Option (List (List Str) × CsvSt) :=
  (csvChar s (some c)).bind fun s' => if c == '\n' then csvEol s' else some ([], s')

/-- the records yielded while the characters of `t` are read, and the reader afterwards
(`none`: `_csv.Error`). The end of the text is not seen. -/
def csvRun (s : CsvSt) : Str → List (List Str) × Option CsvSt
  | [] => ([], some s)
  | c :: cs =>
    match csvStep s c with
    | none => ([], none)
    | some (r, s') => (r ++ (csvRun s' cs).1, (csvRun s' cs).2)

/-- the end of the text: when the last line has no line feed (`openLine`) it is over only now -/
def csvEnd (openLine : Bool) (s : CsvSt) : List (List Str) × Bool :=
  if openLine then
    match csvEol s with
    | none => ([], true)
    | some (r, s') => (r ++ (csvRecords s' []).1, (csvRecords s' []).2)
  else csvRecords s []

/-- the last line of the text is still open: the text does not end with a line feed -/
def openLine (t : Str) : Bool := t.getLast?.any (· != '\n')

/-- what `csvRecords` returns on the lines of `t`, given the outcome `x` of the run over all of `t` -/
def csvFin (t : Str) (x : List (List Str) × Option CsvSt) : List (List Str) × Bool :=
  match x.2 with
  | none => (x.1, true)
  | some s => (x.1 ++ (csvEnd (openLine t) s).1, (csvEnd (openLine t) s).2)

theorem csvLines_eq_nil {t : Str} : csvLines t = [] ↔ t = [] := by
  cases t with
  | nil => simp [csvLines]
  | cons c cs =>
    simp only [csvLines]
    split
    · simp
    · split <;> simp

theorem csvRecords_cons_cons (s : CsvSt) (c : Char) (l : Str) (ls : List Str) :
    csvRecords s ((c :: l) :: ls) =
      match csvChar s (some c) with
      | none => ([], true)
      | some s1 => csvRecords s1 (l :: ls) := by
  rw [csvRecords]
  simp only [csvLine]
  cases csvChar s (some c) with
  | none => rfl
  | some s1 =>
    simp only [Option.bind_some]
    rw [csvRecords]

theorem csvRecords_nil_cons (s : CsvSt) (ls : List Str) :
    csvRecords s ([] :: ls) =
      match csvEol s with
      | none => ([], true)
      | some (r, s') => (r ++ (csvRecords s' ls).1, (csvRecords s' ls).2) := by
  rw [csvRecords, csvLine, csvEol]
  cases csvChar s none with
  | none => rfl
  | some s' =>
    simp only [Option.map_some]
    split <;> rfl

theorem openLine_append {a b : Str} (hb : b ≠ []) : openLine (a ++ b) = openLine b := by
  rw [openLine, openLine, List.getLast?_append_of_ne_nil _ hb]

theorem openLine_cons_cons {c d : Char} {cs : Str} : openLine (c :: d :: cs) = openLine (d :: cs) :=
  openLine_append (a := [c]) (List.cons_ne_nil d cs)

theorem csvFin_prepend {t t' : Str} (h : openLine t = openLine t') {r : List (List Str)}
    {x : List (List Str) × Option CsvSt} :
    csvFin t (r ++ x.1, x.2) = (r ++ (csvFin t' x).1, (csvFin t' x).2) := by
  unfold csvFin
  rw [h]
  cases x.2 <;> simp

theorem csvRecords_csvLines (s : CsvSt) (t : Str) :
    csvRecords s (csvLines t) = csvFin t (csvRun s t) := by
  induction t generalizing s with
  | nil => simp [csvLines, csvFin, csvRun, csvEnd, openLine]
  | cons c cs ih =>
    rw [csvRun, csvStep]
    by_cases hc : c = '\n'
    · -- a line feed: the line ends here, `EOL` follows
      subst hc
      have e : csvLines ('\n' :: cs) = ['\n'] :: csvLines cs := by simp [csvLines]
      rw [e, csvRecords_cons_cons]
      cases csvChar s (some '\n') with
      | none => rfl
      | some s1 =>
        simp only [Option.bind_some, beq_self_eq_true, if_true]
        rw [csvRecords_nil_cons]
        cases csvEol s1 with
        | none => rfl
        | some x =>
          simp only [ih]
          cases cs with
          | nil => simp [csvFin, csvRun, csvEnd, openLine]
          | cons d ds => exact (csvFin_prepend openLine_cons_cons).symm
    · have hcb : (c == '\n') = false := by simpa using hc
      cases cs with
      | nil =>
        -- the last character of an open line: `EOL` comes with the end of the text
        have e : csvLines [c] = [[c]] := by simp [csvLines, hc]
        rw [e, csvRecords_cons_cons]
        cases csvChar s (some c) with
        | none => rfl
        | some s1 =>
          simp only [Option.bind_some, hcb, Bool.false_eq_true, if_false]
          rw [csvRecords_nil_cons]
          have ho : openLine [c] = true := by simpa [openLine] using hc
          simp only [csvRun, csvFin, ho, csvEnd, if_true, List.nil_append]
      | cons d ds =>
        -- any other character: the line goes on
        obtain ⟨l, ls, hl⟩ : ∃ l ls, csvLines (d :: ds) = l :: ls :=
          List.exists_cons_of_ne_nil (mt csvLines_eq_nil.1 (by simp))
        have e : csvLines (c :: d :: ds) = (c :: l) :: ls := by
          rw [csvLines, if_neg (by simpa using hc), hl]
        rw [e, csvRecords_cons_cons]
        cases csvChar s (some c) with
        | none => rfl
        | some s1 =>
          simp only [Option.bind_some, hcb, Bool.false_eq_true, if_false]
          rw [← hl, ih]
          exact (csvFin_prepend (r := []) openLine_cons_cons).symm

theorem csvRead_eq (t : Str) : csvRead t = csvFin t (csvRun .init t) := csvRecords_csvLines _ t

theorem csvRun_cons {s s1 : CsvSt} {c : Char} (hc : c ≠ '\n')
    (h : csvChar s (some c) = some s1) (rest : Str) : csvRun s (c :: rest) = csvRun s1 rest := by
  rw [csvRun, csvStep, h, Option.bind_some, if_neg (by simpa using hc)]
  rfl

theorem csvRun_lf {s s1 : CsvSt} (h1 : csvChar s (some '\n') = some s1) (h2 : s1.state = .eatCrnl)
    (rest : Str) : csvRun s ('\n' :: rest) = (s1.row :: (csvRun .init rest).1, (csvRun .init rest).2) := by
  obtain ⟨st, fld, row⟩ := s1
  subst h2
  rw [csvRun, csvStep, h1, Option.bind_some, if_pos (beq_self_eq_true _)]
  rfl

theorem csvRun_error {s : CsvSt} {c : Char} (h : csvChar s (some c) = none) (rest : Str) :
    csvRun s (c :: rest) = ([], none) := by
  rw [csvRun, csvStep, h]; rfl

/-- characters that force quoting -/
def csvSpecial (c : Char) : Bool := c == ',' || c == '"' || c == '\r' || c == '\n'

/-- quote doubling -/
def csvEsc (s : Str) : Str := s.flatMap fun c => if c == '"' then ['"', '"'] else [c]

/-- a field as an RFC 4180 writer may write it: quoted when it has to be (`,`, `"`, CR, LF inside)
or when the writer likes (`q`); quotes inside are doubled -/
def csvFieldQ (q : Bool) (s : Str) : Str :=
  if q || s.any csvSpecial then ['"'] ++ csvEsc s ++ ['"'] else s

/-- record terminator: CR LF, or a bare LF -/
def csvTerm (crlf : Bool) : Str := if crlf then ['\r', '\n'] else ['\n']

/-- a record: fields (each with its quoting choice) joined by `,`, then the terminator -/
def csvRowQ (crlf : Bool) (fields : List (Bool × Str)) : Str :=
  joinWith [','] (fields.map fun f => csvFieldQ f.1 f.2) ++ csvTerm crlf

def csvBodyQ (fields : List (Bool × Str)) : Str :=
  joinWith [','] (fields.map fun f => csvFieldQ f.1 f.2)

theorem csvBodyQ_cons_cons (f g : Bool × Str) (l : List (Bool × Str)) :
    csvBodyQ (f :: g :: l) = csvFieldQ f.1 f.2 ++ ',' :: csvBodyQ (g :: l) := by
  simp [csvBodyQ, joinWith]

theorem csvBodyQ_single (f : Bool × Str) : csvBodyQ [f] = csvFieldQ f.1 f.2 := rfl

theorem csvRowQ_eq (crlf : Bool) (fields : List (Bool × Str)) :
    csvRowQ crlf fields = csvBodyQ fields ++ csvTerm crlf := rfl

/-- a record can be written: it has a field, and a single empty field is quoted (otherwise the
record would be an empty line) -/
def CsvRowOk (fields : List (Bool × Str)) : Prop := fields ≠ [] ∧ fields ≠ [(false, [])]

instance (fields : List (Bool × Str)) : Decidable (CsvRowOk fields) := by
  unfold CsvRowOk; infer_instance

/-- a text: records with their choice of terminator -/
def csvTextQ (rows : List (Bool × List (Bool × Str))) : Str := rows.flatMap fun r => csvRowQ r.1 r.2

theorem csvSpecial_eq_false {c : Char} :
    csvSpecial c = false ↔ c ≠ ',' ∧ c ≠ '"' ∧ c ≠ '\r' ∧ c ≠ '\n' := by
  simp only [csvSpecial, Bool.or_eq_false_iff, beq_eq_false_iff_ne, and_assoc]

theorem csvFieldQ_cases (q : Bool) (s : Str) :
    csvFieldQ q s = '"' :: (csvEsc s ++ ['"']) ∨
      (csvFieldQ q s = s ∧ ∀ c ∈ s, csvSpecial c = false) := by
  unfold csvFieldQ
  cases h : q || s.any csvSpecial
  · exact .inr ⟨rfl, fun c hc =>
      Bool.eq_false_iff.2 (List.any_eq_false.1 (Bool.or_eq_false_iff.1 h).2 c hc)⟩
  · exact .inl rfl

theorem csvEsc_cons_quote (s : Str) : csvEsc ('"' :: s) = '"' :: '"' :: csvEsc s := rfl

theorem csvEsc_cons_char {c : Char} (h : c ≠ '"') (s : Str) : csvEsc (c :: s) = c :: csvEsc s := by
  simp [csvEsc, h]

theorem CsvSt.add_eq (st st' : CsvState) (fld : Str) (row : List Str) (c : Char) :
    CsvSt.add ⟨st, fld, row⟩ c st' =
      if fld.length < csvFieldLimit then some ⟨st', c :: fld, row⟩ else none := by
  unfold CsvSt.add
  split <;> simp_all [Nat.not_lt.2]

theorem csvChar_plain {c : Char} (hc : csvSpecial c = false) (fld : Str) (row : List Str)
    (st : CsvState) (hst : st ∈ [CsvState.startRecord, .startField, .inField]) :
    csvChar ⟨st, fld, row⟩ (some c) =
      if fld.length < csvFieldLimit then some ⟨.inField, c :: fld, row⟩ else none := by
  obtain ⟨h1, h2, h3, h4⟩ := csvSpecial_eq_false.1 hc
  simp only [List.mem_cons, List.not_mem_nil, or_false] at hst
  rcases hst with rfl | rfl | rfl <;> simp [csvChar, csvStartField, h1, h2, h3, h4, CsvSt.add_eq]

theorem csvChar_inQuoted {c : Char} (hc : c ≠ '"') (fld : Str) (row : List Str) :
    csvChar ⟨.inQuoted, fld, row⟩ (some c) =
      if fld.length < csvFieldLimit then some ⟨.inQuoted, c :: fld, row⟩ else none := by
  simp [csvChar, hc, CsvSt.add_eq]

theorem csvChar_quoteInQuoted (fld : Str) (row : List Str) :
    csvChar ⟨.quoteInQuoted, fld, row⟩ (some '"') =
      if fld.length < csvFieldLimit then some ⟨.inQuoted, '"' :: fld, row⟩ else none :=
  CsvSt.add_eq ..

theorem csvRun_plain_char {c : Char} (hc : csvSpecial c = false) (fld : Str) (row : List Str)
    (st : CsvState) (hst : st ∈ [CsvState.startRecord, .startField, .inField]) (rest : Str) :
    csvRun ⟨st, fld, row⟩ (c :: rest) =
      if fld.length < csvFieldLimit then csvRun ⟨.inField, c :: fld, row⟩ rest else ([], none) := by
  have h := csvChar_plain hc fld row st hst
  split <;> rename_i hl
  · exact csvRun_cons (csvSpecial_eq_false.1 hc).2.2.2 (h.trans (if_pos hl)) rest
  · exact csvRun_error (h.trans (if_neg hl)) rest

theorem csvRun_inQuoted_char {c : Char} (hc : c ≠ '"') (fld : Str) (row : List Str) (rest : Str) :
    csvRun ⟨.inQuoted, fld, row⟩ (c :: rest) =
      if fld.length < csvFieldLimit then csvRun ⟨.inQuoted, c :: fld, row⟩ rest else ([], none) := by
  have h := csvChar_inQuoted hc fld row
  split <;> rename_i hl
  · -- after a line feed the `EOL` event changes nothing inside quotes
    have h2 : (if c == '\n' then csvEol ⟨.inQuoted, c :: fld, row⟩
        else some ([], ⟨.inQuoted, c :: fld, row⟩)) = some ([], ⟨.inQuoted, c :: fld, row⟩) := by
      split <;> rfl
    rw [csvRun, csvStep, h, if_pos hl, Option.bind_some, h2]
    rfl
  · exact csvRun_error (h.trans (if_neg hl)) rest

/-- `w c` is how the character `c` is written (itself, or the doubled quote); `hw`: the reader in state
`st` consumes `w c` as `c`, if the field is not full. Then it takes `s` as long as it fits. -/
theorem csvRun_chars (st : CsvState) (row : List Str) (w : Char → Str) (s : Str)
    (hw : ∀ c ∈ s, ∀ fld rest, csvRun ⟨st, fld, row⟩ (w c ++ rest) =
      if fld.length < csvFieldLimit then csvRun ⟨st, c :: fld, row⟩ rest else ([], none))
    (fld rest : Str) (hfld : fld.length ≤ csvFieldLimit) :
    csvRun ⟨st, fld, row⟩ (s.flatMap w ++ rest) =
      if fld.length + s.length ≤ csvFieldLimit then csvRun ⟨st, s.reverse ++ fld, row⟩ rest
      else ([], none) := by
  induction s generalizing fld with
  | nil => rw [if_pos (by simpa using hfld)]; rfl
  | cons c cs ih =>
    rw [List.flatMap_cons, List.append_assoc, hw c (by simp)]
    by_cases h : fld.length < csvFieldLimit
    · rw [if_pos h, ih (fun x hx => hw x (by simp [hx])) (c :: fld) h]
      simp only [List.length_cons, List.reverse_cons, List.append_assoc, List.singleton_append]
      exact if_congr (by omega) rfl rfl
    · rw [if_neg h, if_neg (by simp only [List.length_cons]; omega)]

theorem csvRun_inField_run (s : Str) (hs : ∀ c ∈ s, csvSpecial c = false) (fld : Str)
    (row : List Str) (rest : Str) (hfld : fld.length ≤ csvFieldLimit) :
    csvRun ⟨.inField, fld, row⟩ (s ++ rest) =
      if fld.length + s.length ≤ csvFieldLimit then csvRun ⟨.inField, s.reverse ++ fld, row⟩ rest
      else ([], none) := by
  have := csvRun_chars .inField row (fun c => [c]) s
    (fun c hc fld rest => csvRun_plain_char (hs c hc) fld row .inField (by decide) rest) fld rest hfld
  rwa [List.flatMap_singleton'] at this

theorem csvRun_inQuoted_run (s : Str) (fld : Str) (row : List Str) (rest : Str)
    (hfld : fld.length ≤ csvFieldLimit) :
    csvRun ⟨.inQuoted, fld, row⟩ (csvEsc s ++ rest) =
      if fld.length + s.length ≤ csvFieldLimit then csvRun ⟨.inQuoted, s.reverse ++ fld, row⟩ rest
      else ([], none) := by
  refine csvRun_chars .inQuoted row _ s (fun c _ fld rest => ?_) fld rest hfld
  by_cases hc : c = '"'
  · subst hc
    rw [if_pos (beq_self_eq_true _), List.cons_append, List.cons_append,
      csvRun_cons (s1 := ⟨.quoteInQuoted, fld, row⟩) (by decide) rfl]
    split <;> rename_i hl
    · exact csvRun_cons (by decide) ((csvChar_quoteInQuoted fld row).trans (if_pos hl)) _
    · exact csvRun_error ((csvChar_quoteInQuoted fld row).trans (if_neg hl)) _
  · rw [if_neg (by simpa using hc)]
    exact csvRun_inQuoted_char hc fld row rest

/-- the reader is behind a complete field and has not seen its delimiter yet (`startField`: the
empty unquoted field); with that field the record so far is `r` -/
def CsvSt.After (s : CsvSt) (r : List Str) : Prop :=
  (s.state = .startField ∨ s.state = .inField ∨ s.state = .quoteInQuoted) ∧
    s.row ++ [s.field.reverse] = r

theorem csvRun_field (q : Bool) (f : Str) (row : List Str) :
    ∃ s' : CsvSt, s'.After (row ++ [f]) ∧
      ∀ rest, csvRun ⟨.startField, [], row⟩ (csvFieldQ q f ++ rest) =
        if f.length ≤ csvFieldLimit then csvRun s' rest else ([], none) := by
  rcases csvFieldQ_cases q f with h | ⟨h, hs⟩ <;> rw [h]
  · refine ⟨⟨.quoteInQuoted, f.reverse, row⟩, ⟨Or.inr (Or.inr rfl), by simp⟩, fun rest => ?_⟩
    rw [List.cons_append, List.append_assoc, csvRun_cons (s1 := ⟨.inQuoted, [], row⟩) (by decide) rfl,
      csvRun_inQuoted_run f [] row _ (by decide), List.append_nil, List.length_nil, Nat.zero_add]
    exact if_congr Iff.rfl (csvRun_cons (by decide) rfl rest) rfl
  · cases f with
    | nil => exact ⟨⟨.startField, [], row⟩, ⟨Or.inl rfl, rfl⟩, fun rest => rfl⟩
    | cons c cs =>
      refine ⟨⟨.inField, (c :: cs).reverse, row⟩, ⟨Or.inr (Or.inl rfl), by simp⟩, fun rest => ?_⟩
      rw [List.cons_append, csvRun_plain_char (hs c (by simp)) _ _ .startField (by decide),
        if_pos (by decide), csvRun_inField_run cs (fun x hx => hs x (by simp [hx])) [c] row rest
          (show 1 ≤ csvFieldLimit by decide)]
      simp only [List.length_cons, List.length_nil, List.reverse_cons]
      exact if_congr (by omega) rfl rfl

/-- after a complete field `,`, CR, LF and `EOL` (in this order) all save the field -/
theorem CsvSt.After.save {s : CsvSt} {r : List Str} (h : s.After r) :
    csvChar s (some ',') = some ⟨.startField, [], r⟩ ∧
    csvChar s (some '\r') = some ⟨.eatCrnl, [], r⟩ ∧
    csvChar s (some '\n') = some ⟨.eatCrnl, [], r⟩ ∧
    csvChar s none = some ⟨.startRecord, [], r⟩ := by
  obtain ⟨st, fld, row⟩ := s
  obtain ⟨h, rfl⟩ := h
  rcases h with h | h | h <;> (simp only at h; subst h; exact ⟨rfl, rfl, rfl, rfl⟩)

theorem csvRun_comma {s : CsvSt} {r : List Str} (h : s.After r) (rest : Str) :
    csvRun s (',' :: rest) = csvRun ⟨.startField, [], r⟩ rest :=
  csvRun_cons (by decide) h.save.1 rest

theorem csvRun_term {s : CsvSt} {r : List Str} (h : s.After r) (crlf : Bool) (rest : Str) :
    csvRun s (csvTerm crlf ++ rest) = (r :: (csvRun .init rest).1, (csvRun .init rest).2) := by
  cases crlf
  · exact csvRun_lf h.save.2.2.1 rfl rest
  · change csvRun s ('\r' :: '\n' :: rest) = _
    rw [csvRun_cons (by decide) h.save.2.1]
    exact csvRun_lf (s1 := ⟨.eatCrnl, [], _⟩) rfl rfl rest

theorem csvRun_body (fields : List (Bool × Str)) (hne : fields ≠ [])
    (hl : ∀ f ∈ fields, f.2.length ≤ csvFieldLimit) (row : List Str) :
    ∃ s' : CsvSt, s'.After (row ++ fields.map (·.2)) ∧
      ∀ rest, csvRun ⟨.startField, [], row⟩ (csvBodyQ fields ++ rest) = csvRun s' rest := by
  induction fields generalizing row with
  | nil => contradiction
  | cons f l ih =>
    obtain ⟨s', hd, hrun⟩ := csvRun_field f.1 f.2 row
    replace hrun := fun rest => (hrun rest).trans (if_pos (hl f (by simp)))
    cases l with
    | nil => exact ⟨s', hd, hrun⟩
    | cons g l =>
      obtain ⟨s'', hd', hrun'⟩ := ih (by simp) (fun x hx => hl x (by simp [hx])) (row ++ [f.2])
      refine ⟨s'', by simpa using hd', fun rest => ?_⟩
      rw [csvBodyQ_cons_cons, List.append_assoc, hrun, List.cons_append, csvRun_comma hd, hrun']

theorem csvBodyQ_head {fields : List (Bool × Str)} (h : CsvRowOk fields) (tail : Str) :
    ∃ c cs, csvBodyQ fields ++ tail = c :: cs ∧ c ≠ '\n' ∧ c ≠ '\r' := by
  obtain ⟨hne, hse⟩ := h
  obtain ⟨⟨q, a⟩, l, rfl⟩ := List.exists_cons_of_ne_nil hne
  obtain ⟨t, ht⟩ : ∃ t, csvBodyQ ((q, a) :: l) ++ tail = csvFieldQ q a ++ t := by
    cases l with
    | nil => exact ⟨tail, rfl⟩
    | cons g l => exact ⟨',' :: csvBodyQ (g :: l) ++ tail, by rw [csvBodyQ_cons_cons]; simp⟩
  rw [ht]
  rcases csvFieldQ_cases q a with h | ⟨h, hs⟩ <;> rw [h]
  · exact ⟨'"', _, rfl, by decide, by decide⟩
  · cases a with
    | cons c cs =>
      obtain ⟨_, _, h3, h4⟩ := csvSpecial_eq_false.1 (hs c (by simp))
      exact ⟨c, _, rfl, h4, h3⟩
    | nil =>
      cases l with
      | nil =>
        have : q = false := by
          cases q
          · rfl
          · simp [csvFieldQ] at h
        exact absurd (this ▸ rfl) hse
      | cons g l =>
        rw [csvBodyQ_cons_cons, h] at ht
        exact ⟨',', _, by rw [← ht]; rfl, by decide, by decide⟩

theorem csvRun_startRecord_char {fld : Str} {row : List Str} {rest : Str} {c : Char} (h1 : c ≠ '\n')
    (h2 : c ≠ '\r') :
    csvRun ⟨.startRecord, fld, row⟩ (c :: rest) = csvRun ⟨.startField, fld, row⟩ (c :: rest) := by
  have : csvChar ⟨.startRecord, fld, row⟩ (some c) = csvChar ⟨.startField, fld, row⟩ (some c) := by
    simp only [csvChar, Bool.or_eq_true, beq_iff_eq, h1, h2, or_self, if_false]
    rfl
  rw [csvRun, csvRun, csvStep, csvStep, this]

theorem csvRun_init_body {fields : List (Bool × Str)} (h : CsvRowOk fields) (tail : Str) :
    csvRun .init (csvBodyQ fields ++ tail) = csvRun ⟨.startField, [], []⟩ (csvBodyQ fields ++ tail) := by
  obtain ⟨c, cs, hc, h1, h2⟩ := csvBodyQ_head h tail
  rw [hc]
  exact csvRun_startRecord_char h1 h2

theorem csvRun_row (crlf : Bool) (fields : List (Bool × Str)) (hok : CsvRowOk fields)
    (hl : ∀ f ∈ fields, f.2.length ≤ csvFieldLimit) (rest : Str) :
    csvRun .init (csvRowQ crlf fields ++ rest) =
      (fields.map (·.2) :: (csvRun .init rest).1, (csvRun .init rest).2) := by
  obtain ⟨s', hd, hrun⟩ := csvRun_body fields hok.1 hl []
  rw [csvRowQ_eq, List.append_assoc, csvRun_init_body hok, hrun, csvRun_term hd]
  rfl

theorem csvRun_textQ (rows : List (Bool × List (Bool × Str)))
    (hok : ∀ r ∈ rows, CsvRowOk r.2) (hl : ∀ r ∈ rows, ∀ f ∈ r.2, f.2.length ≤ csvFieldLimit)
    (rest : Str) :
    csvRun .init (csvTextQ rows ++ rest) =
      ((rows.map fun r => r.2.map (·.2)) ++ (csvRun .init rest).1, (csvRun .init rest).2) := by
  induction rows with
  | nil => rfl
  | cons r rs ih =>
    rw [csvTextQ, List.flatMap_cons, List.append_assoc, csvRun_row r.1 r.2 (hok r (by simp)) (hl r (by simp))]
    rw [csvTextQ] at ih
    rw [ih (fun x hx => hok x (by simp [hx])) fun x hx => hl x (by simp [hx])]
    rfl

theorem csvRead_append {a : Str} {r : List (List Str)} (ha : openLine a = false) (rest : Str)
    (hrun : csvRun .init (a ++ rest) = (r ++ (csvRun .init rest).1, (csvRun .init rest).2)) :
    csvRead (a ++ rest) = (r ++ (csvRead rest).1, (csvRead rest).2) := by
  rw [csvRead_eq, csvRead_eq, hrun]
  refine csvFin_prepend ?_
  cases rest with
  | nil => rw [List.append_nil, ha]; rfl
  | cons c cs => exact openLine_append (List.cons_ne_nil c cs)

theorem openLine_textQ (rows : List (Bool × List (Bool × Str))) : openLine (csvTextQ rows) = false := by
  induction rows using List.reverseRecOn with
  | nil => rfl
  | append_singleton rs r _ =>
    rw [csvTextQ, List.flatMap_append, List.flatMap_singleton, csvRowQ, ← List.append_assoc,
      openLine_append (by cases r.1 <;> simp [csvTerm])]
    cases r.1 <;> rfl

theorem csvRead_textQ_append (rows : List (Bool × List (Bool × Str)))
    (hok : ∀ r ∈ rows, CsvRowOk r.2) (hl : ∀ r ∈ rows, ∀ f ∈ r.2, f.2.length ≤ csvFieldLimit)
    (rest : Str) :
    csvRead (csvTextQ rows ++ rest) =
      ((rows.map fun r => r.2.map (·.2)) ++ (csvRead rest).1, (csvRead rest).2) :=
  csvRead_append (openLine_textQ rows) rest (csvRun_textQ rows hok hl rest)

theorem csvRead_textQ (rows : List (Bool × List (Bool × Str)))
    (hok : ∀ r ∈ rows, CsvRowOk r.2) (hl : ∀ r ∈ rows, ∀ f ∈ r.2, f.2.length ≤ csvFieldLimit) :
    csvRead (csvTextQ rows) = (rows.map fun r => r.2.map (·.2), false) := by
  have := csvRead_textQ_append rows hok hl []
  rw [List.append_nil] at this
  rw [this, show csvRead [] = ([], false) from rfl, List.append_nil]

theorem csvRead_blank (crlf : Bool) (rest : Str) :
    csvRead (csvTerm crlf ++ rest) = ([] :: (csvRead rest).1, (csvRead rest).2) := by
  refine csvRead_append (r := [[]]) (by cases crlf <;> rfl) rest ?_
  cases crlf
  · exact csvRun_lf (s1 := ⟨.eatCrnl, [], []⟩) rfl rfl rest
  · change csvRun _ ('\r' :: '\n' :: rest) = _
    rw [csvRun_cons (by decide) rfl]
    exact csvRun_lf (s1 := ⟨.eatCrnl, [], []⟩) rfl rfl rest

theorem openLine_bodyQ {fields : List (Bool × Str)} (hne : csvBodyQ fields ≠ []) :
    openLine (csvBodyQ fields) = true := by
  induction fields with
  | nil => exact absurd rfl hne
  | cons f l ih =>
    cases l with
    | nil =>
      rw [csvBodyQ_single] at hne ⊢
      rcases csvFieldQ_cases f.1 f.2 with h | ⟨h, hs⟩ <;> rw [h] at hne ⊢
      · rw [← List.cons_append, openLine_append (by simp)]; rfl
      · obtain ⟨a, c, hc⟩ := (List.eq_nil_or_concat' _).resolve_left hne
        rw [hc, openLine_append (by simp)]
        simpa [openLine] using (csvSpecial_eq_false.1 (hs c (by simp [hc]))).2.2.2
    | cons g l =>
      rw [csvBodyQ_cons_cons]
      by_cases hb : csvBodyQ (g :: l) = []
      · rw [hb, openLine_append (by simp)]; rfl
      · rw [← List.singleton_append, ← List.append_assoc, openLine_append hb, ih hb]

theorem csvRead_textQ_open (rows : List (Bool × List (Bool × Str))) (last : List (Bool × Str))
    (hok : ∀ r ∈ rows, CsvRowOk r.2) (hl : ∀ r ∈ rows, ∀ f ∈ r.2, f.2.length ≤ csvFieldLimit)
    (hokl : CsvRowOk last) (hll : ∀ f ∈ last, f.2.length ≤ csvFieldLimit) :
    csvRead (csvTextQ rows ++ csvBodyQ last) =
      ((rows.map fun r => r.2.map (·.2)) ++ [last.map (·.2)], false) := by
  obtain ⟨s', hd, hrun⟩ := csvRun_body last hokl.1 hll []
  have hrun' := hrun []
  rw [← csvRun_init_body hokl, List.append_nil] at hrun'
  have hne : csvBodyQ last ≠ [] := by
    obtain ⟨c, cs, hc, _⟩ := csvBodyQ_head hokl []
    rw [List.append_nil] at hc
    simp [hc]
  rw [csvRead_eq, csvRun_textQ rows hok hl, hrun', csvRun, csvFin, openLine_append hne,
    openLine_bodyQ hne]
  -- the last line is open: `EOL` saves the pending field, the record is yielded, and nothing is
  -- left for `csvRecords _ []`
  simp [csvEnd, csvEol, hd.save.2.2.2, csvRecords, CsvSt.init]

theorem csvRead_field_too_long (q : Bool) (f : Str) (hf : csvFieldLimit < f.length) (rest : Str) :
    csvRead (csvFieldQ q f ++ rest) = ([], true) := by
  have hok : CsvRowOk [(q, f)] := ⟨by simp, fun h => by
    have : f = [] := congrArg (fun l => (l.headD (false, [])).2) h
    subst this; simp at hf⟩
  have := csvRun_init_body hok rest
  rw [csvBodyQ_single] at this
  obtain ⟨_, _, hrun⟩ := csvRun_field q f []
  rw [csvRead_eq, this, hrun, if_neg (Nat.not_le.2 hf)]
  rfl

/-- quoting choices of `csv.writer` with `QUOTE_MINIMAL`: only a single empty field -/
def csvMarks (fields : List Str) : List (Bool × Str) :=
  if fields = [[]] then [(true, [])] else fields.map fun f => (false, f)

theorem csvMarks_snd (fields : List Str) : (csvMarks fields).map (·.2) = fields := by
  unfold csvMarks
  split
  · next h => subst h; rfl
  · simp [List.map_map, Function.comp_def]

theorem csvMarks_ok {fields : List Str} (h : fields ≠ []) : CsvRowOk (csvMarks fields) := by
  unfold csvMarks
  split
  · exact ⟨by simp, by simp⟩
  · next hne =>
    refine ⟨by simpa using h, ?_⟩
    intro he
    apply hne
    have := congrArg (List.map (·.2)) he
    simpa [List.map_map, Function.comp_def] using this

theorem csvRow_eq (fields : List Str) : csvRow fields = csvRowQ true (csvMarks fields) := by
  unfold csvRow csvMarks
  split
  · rfl
  · next hne =>
    have : ¬ fields = [[]] := fun h => hne h
    rw [if_neg this, csvRowQ, List.map_map]
    have : ((fun f : Bool × Str => csvFieldQ f.1 f.2) ∘ fun f => (false, f)) = csvField := by
      funext s; exact if_congr (by rw [Bool.false_or]; rfl) rfl rfl
    rw [this]; rfl

theorem csvText_eq (rows : List (List Str)) :
    rows.flatMap csvRow = csvTextQ (rows.map fun r => (true, csvMarks r)) := by
  rw [csvTextQ, List.flatMap_map]
  congr 1
  funext r
  exact csvRow_eq r

theorem csvRead_rows_append (rs : List (List Str)) (h : ∀ r ∈ rs, r ≠ [])
    (hl : ∀ r ∈ rs, ∀ f ∈ r, f.length ≤ csvFieldLimit) (rest : Str) :
    csvRead (rs.flatMap csvRow ++ rest) = (rs ++ (csvRead rest).1, (csvRead rest).2) := by
  rw [csvText_eq, csvRead_textQ_append]
  · simp [List.map_map, Function.comp_def, csvMarks_snd]
  · exact List.forall_mem_map.2 fun x hx => csvMarks_ok (h x hx)
  · refine List.forall_mem_map.2 fun x hx f hf => ?_
    have : f.2 ∈ (csvMarks x).map (·.2) := List.mem_map_of_mem hf
    rw [csvMarks_snd] at this
    exact hl x hx _ this

theorem csvRead_rows (rs : List (List Str)) (h : ∀ r ∈ rs, r ≠ [])
    (hl : ∀ r ∈ rs, ∀ f ∈ r, f.length ≤ csvFieldLimit) :
    csvRead (rs.flatMap csvRow) = (rs, false) := by
  have := csvRead_rows_append rs h hl []
  rwa [List.append_nil, show csvRead [] = ([], false) from rfl, List.append_nil] at this

theorem csvRow_cons_ne (o : Str) (l : List Str) :
    ∃ tail, csvRow (o :: l) = csvFieldQ false o ++ tail := by
  by_cases hne : (o :: l) = [[]]
  · cases hne; exact ⟨_, rfl⟩
  rw [csvRow_eq, csvMarks, if_neg hne, csvRowQ_eq]
  cases l with
  | nil => exact ⟨csvTerm true, rfl⟩
  | cons x xs =>
    refine ⟨',' :: csvBodyQ ((x :: xs).map fun f => (false, f)) ++ csvTerm true, ?_⟩
    rw [List.map_cons, List.map_cons, csvBodyQ_cons_cons]
    simp

theorem csvParse_of_read {t : Str} {rows : List (List Str)} (h : csvRead t = (rows, false)) :
    csvParse t = some rows := by
  simp [csvParse, h]

end FCA
