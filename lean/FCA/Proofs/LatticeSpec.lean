import FCA.Proofs.Assemble
import FCA.Proofs.Keys
import FCA.Proofs.Lindig
/-
`Context.lattice` of the model (`mkLattice K = assemble K (lindigLattice K)`): a complete
characterisation `LatticeSpec K L` of the list of concepts, their positions and their neighbor / atom /
index / dindex / label fields, and `mkLattice_spec : K.WF → LatticeSpec K (mkLattice K)`.
-/
namespace FCA

-- so that the lattice of an example context can be stated as a literal and checked by evaluation
deriving instance DecidableEq for LConcept

namespace Lattice
variable {L : Lattice} {k : Nat} {c : LConcept}

theorem extentAt_get (h : L[k]? = some c) : L.extentAt k = c.extent := by unfold Lattice.extentAt; rw [h]; rfl
theorem upperAt_get (h : L[k]? = some c) : L.upperAt k = c.upper := by unfold Lattice.upperAt; rw [h]; rfl
theorem lowerAt_get (h : L[k]? = some c) : L.lowerAt k = c.lower := by unfold Lattice.lowerAt; rw [h]; rfl
theorem dindexAt_get (h : L[k]? = some c) : L.dindexAt k = c.dindex := by unfold Lattice.dindexAt; rw [h]; rfl

theorem extentAt_eq_getD (L : Lattice) (i : Nat) : L.extentAt i = (L.map (·.extent)).getD i 0 := by
  unfold Lattice.extentAt; rw [List.getD_eq_getElem?_getD, List.getElem?_map]

theorem extentAt_of_not_lt (h : ¬ k < L.length) : L.extentAt k = 0 := by
  unfold Lattice.extentAt
  rw [List.getElem?_eq_none (by omega)]; rfl

end Lattice

theorem C07.find_some_extentAt {L : Lattice} {e k : Nat} (hk : L.find e = some k) :
    k < L.length ∧ L.extentAt k = e := by
  refine ⟨by simpa using indexOf?_some_lt hk, ?_⟩
  unfold Lattice.extentAt
  rw [← List.getElem?_map, indexOf?_some_get hk]; rfl

/-- the positions `0..len-1` of `L` in long-lexicographic order of their extents
(`sorted(self._concepts, key=lambda c: c._extent.longlex())`) -/
def LatticeSpec.dorder (K : Ctx) (L : Lattice) : List Nat :=
  sortBy (fun i => longlexKey K.n ((L.map (·.extent)).getD i 0)) (List.range L.length)

/-- What `Context.lattice` builds, with `E := L.map (·.extent)` the extents in iteration order.
All neighbor / atom references are positions in `L` (equivalently in `E`). -/
structure LatticeSpec (K : Ctx) (L : Lattice) : Prop where
  wf : K.WF
  /-- iteration order = strictly increasing shortlex key of the extents -/
  sorted : (L.map (·.extent)).Pairwise (fun a b => shortlexKey K.n a < shortlexKey K.n b)
  /-- the extents are exactly the closed object sets -/
  mem : ∀ x, x ∈ L.map (·.extent) ↔ closedObj K x
  index : ∀ {k : Nat} {c : LConcept}, L[k]? = some c → c.index = k
  intent : ∀ {k : Nat} {c : LConcept}, L[k]? = some c → c.intent = K.intentOf c.extent
  upper_nodup : ∀ {k : Nat} {c : LConcept}, L[k]? = some c → c.upper.Nodup
  mem_upper : ∀ {k : Nat} {c : LConcept}, L[k]? = some c →
    ∀ j, j ∈ c.upper ↔ ∃ d, (L.map (·.extent))[j]? = some d ∧ covers K c.extent d
  /-- positions ascending, i.e. shortlex order of the extents (see `LatticeSpec.upper_shortlex`) -/
  upper_sorted : ∀ {k : Nat} {c : LConcept}, L[k]? = some c → c.upper.Pairwise (· < ·)
  lower_nodup : ∀ {k : Nat} {c : LConcept}, L[k]? = some c → c.lower.Nodup
  /-- with `L[j]? = some d` in place of the list of extents: `LatticeSpec.mem_lower_iff` (and `mem_upper_iff` above) -/
  mem_lower : ∀ {k : Nat} {c : LConcept}, L[k]? = some c →
    ∀ j, j ∈ c.lower ↔ ∃ d, (L.map (·.extent))[j]? = some d ∧ closedObj K d ∧ covers K d c.extent
  lower_sorted : ∀ {k : Nat} {c : LConcept}, L[k]? = some c →
    c.lower.Pairwise (fun a b => longlexKey K.n ((L.map (·.extent)).getD a 0) < longlexKey K.n ((L.map (·.extent)).getD b 0))
  objects : ∀ {k : Nat} {c : LConcept}, L[k]? = some c → c.objects = objectLabels K c.extent
  properties : ∀ {k : Nat} {c : LConcept}, L[k]? = some c → c.properties = propertyLabels K c.extent
  /-- `Concept.atoms`: the upper neighbors of the first concept that are below the concept -/
  atoms : ∀ {k : Nat} {c : LConcept}, L[k]? = some c →
    c.atoms = (L.upperAt 0).filter (fun a => c.extent ||| (L.map (·.extent)).getD a 0 == c.extent)
  /-- `Concept.dindex`: position in the longlex-sorted list of positions -/
  dindex : ∀ {k : Nat} {c : LConcept}, L[k]? = some c → c.dindex = (indexOf? k (LatticeSpec.dorder K L)).getD 0

namespace LatticeSpec

variable {K : Ctx} {L : Lattice}

theorem nodup (S : LatticeSpec K L) : (L.map (·.extent)).Nodup := nodup_of_strict S.sorted

theorem length_extents (_S : LatticeSpec K L) : L.length = (L.map (·.extent)).length := by simp

theorem extent_get (_S : LatticeSpec K L) {k : Nat} {c : LConcept} (h : L[k]? = some c) :
    (L.map (·.extent))[k]? = some c.extent := by
  rw [List.getElem?_map, h]; rfl

theorem get_of_extent (_S : LatticeSpec K L) {k e : Nat} (h : (L.map (·.extent))[k]? = some e) :
    ∃ c, L[k]? = some c ∧ c.extent = e := by
  rw [List.getElem?_map] at h
  exact Option.map_eq_some_iff.mp h

theorem getD_extent (_S : LatticeSpec K L) {k : Nat} {c : LConcept} (h : L[k]? = some c) :
    (L.map (·.extent)).getD k 0 = c.extent :=
  Lattice.extentAt_eq_getD L k ▸ Lattice.extentAt_get h

theorem closed (S : LatticeSpec K L) {k : Nat} {c : LConcept} (h : L[k]? = some c) : closedObj K c.extent :=
  (S.mem _).mp (List.mem_of_getElem? (S.extent_get h))

theorem bounded (S : LatticeSpec K L) {k : Nat} {c : LConcept} (h : L[k]? = some c) : Bounded K.n c.extent :=
  (S.closed h).1

theorem bounded_intent (S : LatticeSpec K L) {k : Nat} {c : LConcept} (h : L[k]? = some c) : Bounded K.m c.intent := by
  rw [S.intent h]; exact bounded_intentOf _

theorem pos_lt_iff (S : LatticeSpec K L) {i j : Nat} {c d : LConcept} (hi : L[i]? = some c) (hj : L[j]? = some d) :
    i < j ↔ shortlexKey K.n c.extent < shortlexKey K.n d.extent :=
  FCA.pos_lt_iff S.sorted (S.extent_get hi) (S.extent_get hj)

theorem pos_inj (S : LatticeSpec K L) {i j : Nat} {c d : LConcept} (hi : L[i]? = some c) (hj : L[j]? = some d)
    (he : c.extent = d.extent) : i = j :=
  FCA.pos_inj S.nodup (S.extent_get hi) (he ▸ S.extent_get hj)

theorem pos_lt_of_ssub (S : LatticeSpec K L) {i j : Nat} {c d : LConcept} (hi : L[i]? = some c) (hj : L[j]? = some d)
    (hs : c.extent ⊆ᵇ d.extent) (hne : c.extent ≠ d.extent) : i < j :=
  (S.pos_lt_iff hi hj).mpr (shortlexKey_lt_of_ssub hs (S.bounded hj) hne)

theorem pos_le_of_sub (S : LatticeSpec K L) {i j : Nat} {c d : LConcept} (hi : L[i]? = some c) (hj : L[j]? = some d)
    (hs : c.extent ⊆ᵇ d.extent) : i ≤ j := by
  by_cases hne : c.extent = d.extent
  · exact le_of_eq (S.pos_inj hi hj hne)
  · exact le_of_lt (S.pos_lt_of_ssub hi hj hs hne)

/-- `lattice._mapping[extent]` -/
theorem find_iff (S : LatticeSpec K L) (e k : Nat) : L.find e = some k ↔ (L.map (·.extent))[k]? = some e :=
  ⟨indexOf?_some_get, indexOf?_get_nodup S.nodup⟩

theorem find_get (S : LatticeSpec K L) {k : Nat} {c : LConcept} (h : L[k]? = some c) : L.find c.extent = some k :=
  (S.find_iff _ _).mpr (S.extent_get h)

theorem find_some (S : LatticeSpec K L) {e k : Nat} (h : L.find e = some k) :
    ∃ c, L[k]? = some c ∧ c.extent = e :=
  S.get_of_extent ((S.find_iff e k).mp h)

theorem find_of_closed (S : LatticeSpec K L) {e : Nat} (he : closedObj K e) :
    ∃ k c, L.find e = some k ∧ L[k]? = some c ∧ c.extent = e := by
  obtain ⟨k, hk⟩ := indexOf?_of_mem ((S.mem e).mpr he)
  exact ⟨k, (S.find_some hk).imp fun _ hc => ⟨hk, hc⟩⟩

theorem find_none (S : LatticeSpec K L) {e : Nat} (h : ¬ closedObj K e) : L.find e = none :=
  indexOf?_eq_none (fun hm => h ((S.mem e).mp hm))

theorem extentAt_closed (S : LatticeSpec K L) {k : Nat} (hk : k < L.length) : closedObj K (L.extentAt k) :=
  Lattice.extentAt_get (List.getElem?_eq_getElem hk) ▸ S.closed (List.getElem?_eq_getElem hk)

theorem extentAt_bounded (S : LatticeSpec K L) (k : Nat) : Bounded K.n (L.extentAt k) := by
  by_cases hk : k < L.length
  · exact (S.extentAt_closed hk).1
  · rw [Lattice.extentAt_of_not_lt hk]; exact bounded_zero _

theorem find_extentAt (S : LatticeSpec K L) {k : Nat} (hk : k < L.length) : L.find (L.extentAt k) = some k :=
  Lattice.extentAt_get (List.getElem?_eq_getElem hk) ▸ S.find_get (List.getElem?_eq_getElem hk)

theorem find_eq_some_iff (S : LatticeSpec K L) {e k : Nat} : L.find e = some k ↔ k < L.length ∧ L.extentAt k = e :=
  ⟨C07.find_some_extentAt, fun ⟨hk, he⟩ => he ▸ S.find_extentAt hk⟩

theorem find_closed (S : LatticeSpec K L) {e : Nat} (he : closedObj K e) :
    ∃ k, L.find e = some k ∧ k < L.length ∧ L.extentAt k = e := by
  obtain ⟨k, _, hk, _⟩ := S.find_of_closed he
  exact ⟨k, hk, C07.find_some_extentAt hk⟩

theorem bot_mem (S : LatticeSpec K L) : K.doubleObj 0 ∈ L.map (·.extent) := (S.mem _).mpr (bot_closed S.wf)

theorem ne_nil (S : LatticeSpec K L) : L ≠ [] := by
  intro h0
  have := S.bot_mem
  rw [h0] at this
  simp at this

theorem length_pos (S : LatticeSpec K L) : 0 < L.length := List.length_pos_iff.mpr S.ne_nil

theorem get_zero (S : LatticeSpec K L) : ∃ c, L[0]? = some c ∧ c.extent = K.doubleObj 0 := by
  obtain ⟨k, hk⟩ := List.getElem?_of_mem S.bot_mem
  obtain ⟨c, hc, hce⟩ := S.get_of_extent hk
  have hc0 := List.getElem?_eq_getElem S.length_pos
  obtain rfl := Nat.le_zero.mp (S.pos_le_of_sub hc hc0 (by rw [hce]; exact bot_least (S.closed hc0)))
  exact ⟨c, hc, hce⟩

theorem head (S : LatticeSpec K L) : (L.map (·.extent)).head? = some (K.doubleObj 0) := by
  obtain ⟨c, hc, hce⟩ := S.get_zero
  rw [List.head?_eq_getElem?, S.extent_get hc, hce]

theorem get_last (S : LatticeSpec K L) : ∃ c, L[L.length - 1]? = some c ∧ c.extent = full K.n := by
  obtain ⟨k, hk⟩ := List.getElem?_of_mem ((S.mem _).mpr (full_closed S.wf))
  obtain ⟨c, hc, hce⟩ := S.get_of_extent hk
  have hc0 := List.getElem?_eq_getElem (Nat.sub_one_lt (Nat.ne_of_gt S.length_pos))
  obtain rfl := Nat.le_antisymm (Nat.le_sub_one_of_lt (lt_of_get hc))
    (S.pos_le_of_sub hc0 hc (by rw [hce]; exact bounded_iff_sub_full.mp (S.bounded hc0)))
  exact ⟨c, hc, hce⟩

theorem last (S : LatticeSpec K L) : (L.map (·.extent)).getLast? = some (full K.n) := by
  obtain ⟨c, hc, hce⟩ := S.get_last
  rw [List.getLast?_eq_getElem?, List.length_map, S.extent_get hc, hce]

theorem extentAt_zero (S : LatticeSpec K L) : L.extentAt 0 = K.doubleObj 0 := by
  obtain ⟨c, hc, he⟩ := S.get_zero
  rw [Lattice.extentAt_get hc, he]

theorem extentAt_last (S : LatticeSpec K L) : L.extentAt (L.length - 1) = full K.n := by
  obtain ⟨c, hc, he⟩ := S.get_last
  rw [Lattice.extentAt_get hc, he]

theorem mem_upper_iff (S : LatticeSpec K L) {k : Nat} {c : LConcept} (h : L[k]? = some c) (j : Nat) :
    j ∈ c.upper ↔ ∃ d, L[j]? = some d ∧ covers K c.extent d.extent := by
  rw [S.mem_upper h]
  constructor
  · rintro ⟨e, he, hcv⟩
    obtain ⟨d, hd, rfl⟩ := S.get_of_extent he
    exact ⟨d, hd, hcv⟩
  · rintro ⟨d, hd, hcv⟩; exact ⟨_, S.extent_get hd, hcv⟩

theorem mem_lower_iff (S : LatticeSpec K L) {k : Nat} {c : LConcept} (h : L[k]? = some c) (j : Nat) :
    j ∈ c.lower ↔ ∃ d, L[j]? = some d ∧ covers K d.extent c.extent := by
  rw [S.mem_lower h]
  constructor
  · rintro ⟨e, he, _, hcv⟩
    obtain ⟨d, hd, rfl⟩ := S.get_of_extent he
    exact ⟨d, hd, hcv⟩
  · rintro ⟨d, hd, hcv⟩; exact ⟨_, S.extent_get hd, S.closed hd, hcv⟩

theorem upper_get (S : LatticeSpec K L) {k : Nat} {c : LConcept} (h : L[k]? = some c) {j : Nat} (hj : j ∈ c.upper) :
    ∃ d, L[j]? = some d ∧ covers K c.extent d.extent := (S.mem_upper_iff h j).mp hj

theorem lower_get (S : LatticeSpec K L) {k : Nat} {c : LConcept} (h : L[k]? = some c) {j : Nat} (hj : j ∈ c.lower) :
    ∃ d, L[j]? = some d ∧ covers K d.extent c.extent := (S.mem_lower_iff h j).mp hj

theorem mem_upper_iff_mem_lower (S : LatticeSpec K L) {i j : Nat} {c d : LConcept} (hi : L[i]? = some c)
    (hj : L[j]? = some d) : j ∈ c.upper ↔ i ∈ d.lower := by
  rw [S.mem_upper_iff hi, S.mem_lower_iff hj, hi, hj]
  simp only [Option.some.injEq, exists_eq_left']

theorem upper_gt (S : LatticeSpec K L) {k : Nat} {c : LConcept} (h : L[k]? = some c) {j : Nat} (hj : j ∈ c.upper) :
    k < j ∧ j < L.length := by
  obtain ⟨d, hd, hcv⟩ := S.upper_get h hj
  exact ⟨S.pos_lt_of_ssub h hd hcv.2.1 hcv.2.2.1, lt_of_get hd⟩

theorem lower_lt (S : LatticeSpec K L) {k : Nat} {c : LConcept} (h : L[k]? = some c) {j : Nat} (hj : j ∈ c.lower) :
    j < k := by
  obtain ⟨d, hd, hcv⟩ := S.lower_get h hj
  exact S.pos_lt_of_ssub hd h hcv.2.1 hcv.2.2.1

theorem upper_shortlex (S : LatticeSpec K L) {k : Nat} {c : LConcept} (h : L[k]? = some c) :
    c.upper.Pairwise (fun a b => shortlexKey K.n ((L.map (·.extent)).getD a 0) < shortlexKey K.n ((L.map (·.extent)).getD b 0)) := by
  refine List.Pairwise.imp_of_mem ?_ (S.upper_sorted h)
  intro a b ha hb hab
  obtain ⟨d, hd, _⟩ := S.upper_get h ha
  obtain ⟨d', hd', _⟩ := S.upper_get h hb
  rw [S.getD_extent hd, S.getD_extent hd']
  exact (S.pos_lt_iff hd hd').mp hab

theorem mem_atoms (S : LatticeSpec K L) {k : Nat} {c : LConcept} (h : L[k]? = some c) (a : Nat) :
    a ∈ c.atoms ↔ ∃ d, L[a]? = some d ∧ covers K (K.doubleObj 0) d.extent ∧ d.extent ⊆ᵇ c.extent := by
  obtain ⟨c0, h0, he⟩ := S.get_zero
  rw [S.atoms h, List.mem_filter, Lattice.upperAt_get h0, S.mem_upper_iff h0, he, beq_iff_eq, or_eq_left_iff]
  constructor
  · rintro ⟨⟨d, hd, hcv⟩, hs⟩
    exact ⟨d, hd, hcv, S.getD_extent hd ▸ hs⟩
  · rintro ⟨d, hd, hcv, hs⟩
    exact ⟨⟨d, hd, hcv⟩, (S.getD_extent hd).symm ▸ hs⟩

/-- `Concept.atoms` is in iteration (index) order -/
theorem _root_.FCA.C10.atoms_sorted (S : LatticeSpec K L) {k : Nat} {c : LConcept} (h : L[k]? = some c) :
    c.atoms.Pairwise (· < ·) := by
  obtain ⟨c0, h0, _⟩ := S.get_zero
  rw [S.atoms h, Lattice.upperAt_get h0]
  exact List.Pairwise.filter _ (S.upper_sorted h0)

theorem get_index (S : LatticeSpec K L) {c : LConcept} (hc : c ∈ L) : L[c.index]? = some c := by
  obtain ⟨k, hk⟩ := List.getElem?_of_mem hc
  rwa [S.index hk]

theorem closed_of_mem (S : LatticeSpec K L) {c : LConcept} (hc : c ∈ L) : closedObj K c.extent := S.closed (S.get_index hc)

theorem intent_of_mem (S : LatticeSpec K L) {c : LConcept} (hc : c ∈ L) : c.intent = K.intentOf c.extent :=
  S.intent (S.get_index hc)

theorem exists_of_closed (S : LatticeSpec K L) {e : Nat} (he : closedObj K e) : ∃ c ∈ L, c.extent = e :=
  List.exists_of_mem_map ((S.mem e).mpr he)

theorem eq_of_index_eq (S : LatticeSpec K L) {c d : LConcept} (hc : c ∈ L) (hd : d ∈ L)
    (h : c.index = d.index) : c = d :=
  Option.some.inj ((S.get_index hc).symm.trans (h ▸ S.get_index hd))

theorem eq_of_extent_eq (S : LatticeSpec K L) {c d : LConcept} (hc : c ∈ L) (hd : d ∈ L)
    (he : c.extent = d.extent) : c = d :=
  S.eq_of_index_eq hc hd (S.pos_inj (S.get_index hc) (S.get_index hd) he)

theorem map_index (S : LatticeSpec K L) : L.map (·.index) = List.range L.length :=
  List.ext_getElem (by simp) fun i h1 _ => by
    rw [List.getElem_map, List.getElem_range]
    exact S.index (List.getElem?_eq_getElem (by simpa using h1))

theorem index_pairwise_lt (S : LatticeSpec K L) : L.Pairwise (fun c d => c.index < d.index) :=
  List.pairwise_map.mp (S.map_index ▸ List.pairwise_lt_range)

/-! #### dindex: `k ↦ c.dindex` and `p ↦ (dorder K L)[p]` are inverse bijections of `0 .. len-1` -/

theorem dorder_perm (_S : LatticeSpec K L) : (dorder K L).Perm (List.range L.length) := sortBy_perm _ _

theorem dorder_length (_S : LatticeSpec K L) : (dorder K L).length = L.length := by
  rw [dorder, (sortBy_perm _ _).length_eq, List.length_range]

theorem dorder_sorted (S : LatticeSpec K L) : (dorder K L).Pairwise (fun a b =>
    longlexKey K.n ((L.map (·.extent)).getD a 0) < longlexKey K.n ((L.map (·.extent)).getD b 0)) :=
  sortBy_strict _ List.nodup_range fun a ha b hb hab => by
    have ha' := List.getElem?_eq_getElem (List.mem_range.mp ha)
    have hb' := List.getElem?_eq_getElem (List.mem_range.mp hb)
    rw [S.getD_extent ha', S.getD_extent hb'] at hab
    exact S.pos_inj ha' hb' (longlexKey_inj (S.bounded ha') (S.bounded hb') hab)

/-- `c.dindex` is the position of (the position of) `c` in the longlex-sorted list -/
theorem dorder_get (S : LatticeSpec K L) {k : Nat} {c : LConcept} (h : L[k]? = some c) :
    (dorder K L)[c.dindex]? = some k := by
  obtain ⟨p, hp⟩ := indexOf?_of_mem (S.dorder_perm.mem_iff.mpr (List.mem_range.mpr (lt_of_get h)))
  rw [S.dindex h, hp]
  exact indexOf?_some_get hp

theorem dindex_of_dorder (S : LatticeSpec K L) {k p : Nat} {c : LConcept} (h : L[k]? = some c)
    (hp : (dorder K L)[p]? = some k) : c.dindex = p := by
  rw [S.dindex h, indexOf?_get_nodup (nodup_of_strict S.dorder_sorted) hp]
  rfl

theorem dindex_lt (S : LatticeSpec K L) {k : Nat} {c : LConcept} (h : L[k]? = some c) : c.dindex < L.length :=
  S.dorder_length ▸ lt_of_get (S.dorder_get h)

theorem dindex_inj (S : LatticeSpec K L) {i j : Nat} {c d : LConcept} (hi : L[i]? = some c) (hj : L[j]? = some d)
    (he : c.dindex = d.dindex) : i = j :=
  Option.some.inj ((S.dorder_get hi).symm.trans (he ▸ S.dorder_get hj))

theorem dindex_surj (S : LatticeSpec K L) {i : Nat} (hi : i < L.length) : ∃ (k : Nat) (c : LConcept), L[k]? = some c ∧ c.dindex = i := by
  have hi' : i < (dorder K L).length := S.dorder_length.symm ▸ hi
  have hk : (dorder K L)[i] < L.length := List.mem_range.mp (S.dorder_perm.mem_iff.mp (List.getElem_mem hi'))
  exact ⟨_, _, List.getElem?_eq_getElem hk, S.dindex_of_dorder (List.getElem?_eq_getElem hk) (List.getElem?_eq_getElem hi')⟩

theorem dindex_lt_iff (S : LatticeSpec K L) {i j : Nat} {c d : LConcept} (hi : L[i]? = some c) (hj : L[j]? = some d) :
    longlexKey K.n c.extent < longlexKey K.n d.extent ↔ c.dindex < d.dindex := by
  rw [FCA.pos_lt_iff S.dorder_sorted (S.dorder_get hi) (S.dorder_get hj), S.getD_extent hi, S.getD_extent hj]

theorem dindex_eq_count (S : LatticeSpec K L) {k : Nat} {c : LConcept} (h : L[k]? = some c) :
    c.dindex = L.countP (fun d => decide (longlexKey K.n d.extent < longlexKey K.n c.extent)) := by
  have h1 := countP_of_sorted S.dorder_sorted (S.dorder_get h)
  rw [S.dorder_perm.countP_eq, S.getD_extent h, ← List.length_map (f := (·.extent)),
    countP_range_getD _ (fun e => decide (longlexKey K.n e < longlexKey K.n c.extent)), List.countP_map] at h1
  exact h1.symm

theorem dindex_lt_of_ssub (S : LatticeSpec K L) {i j : Nat} {c d : LConcept} (hi : L[i]? = some c) (hj : L[j]? = some d)
    (hs : c.extent ⊆ᵇ d.extent) (hne : c.extent ≠ d.extent) : d.dindex < c.dindex :=
  (S.dindex_lt_iff hj hi).mp (longlexKey_lt_of_ssub hs (S.bounded hj) hne)

theorem dindex_le_of_sub (S : LatticeSpec K L) {i j : Nat} {c d : LConcept} (hi : L[i]? = some c) (hj : L[j]? = some d)
    (hs : c.extent ⊆ᵇ d.extent) : d.dindex ≤ c.dindex := by
  by_cases hne : c.extent = d.extent
  · obtain rfl := S.pos_inj hi hj hne
    exact le_of_eq (congrArg _ (Option.some.inj (hj.symm.trans hi)))
  · exact le_of_lt (S.dindex_lt_of_ssub hi hj hs hne)

end LatticeSpec

theorem assemble_spec {K : Ctx} (h : K.WF) {recs : List Rec} (S : LindigSpec K recs) :
    LatticeSpec K (assemble K recs) := by
  have hnd := S.nodup
  have hbd : ∀ a ∈ recs.map (·.extent), Bounded K.n a := fun a ha => ((S.mem a).mp ha).1
  -- the neighbor tuples: the positions of the covers, strictly sorted by the key of their extents
  have up : ∀ {r}, r ∈ recs → _ := fun {r} hrm =>
    sortedIndexes (κ := shortlexKey K.n) (xs := r.upper) hnd
      (by rw [S.upper r hrm]; exact neighbors_nodup h (S.closed hrm))
      fun a ha b hb => shortlexKey_inj (hbd a ha) (hbd b hb)
  have lo : ∀ {r}, r ∈ recs → _ := fun {r} hrm =>
    sortedIndexes (κ := longlexKey K.n) (xs := r.lower) hnd (by rw [S.lower r hrm]; exact hnd.filter _)
      fun a ha b hb => longlexKey_inj (hbd a ha) (hbd b hb)
  constructor
  case wf => exact h
  case sorted => rw [assemble_extents]; exact S.sorted
  case mem => rw [assemble_extents]; exact S.mem
  all_goals
    intro k c hc
    obtain ⟨r, hr, hrm, rfl⟩ := assemble_get_some hc
  case index | objects | properties => rfl
  case intent => exact S.intent r hrm
  case upper_nodup => rw [mkConcept_upper hr]; exact nodup_of_strict (up hrm)
  case mem_upper =>
    intro j
    rw [mkConcept_upper hr, mem_sortBy, mem_toIndexes hnd, assemble_extents]
    exact exists_congr fun d => and_congr_right fun _ => S.mem_upper h hrm
  case upper_sorted =>
    -- ascending shortlex keys of the extents are ascending positions
    rw [mkConcept_upper hr]
    refine (up hrm).imp_of_mem fun ha hb hab => ?_
    rw [mem_sortBy, mem_toIndexes hnd] at ha hb
    obtain ⟨a', ha, _⟩ := ha
    obtain ⟨b', hb, _⟩ := hb
    rw [getD_of_get ha, getD_of_get hb] at hab
    exact (FCA.pos_lt_iff S.sorted ha hb).mpr hab
  case lower_nodup => rw [mkConcept_lower]; exact nodup_of_strict (lo hrm)
  case mem_lower =>
    intro j
    rw [mkConcept_lower, mem_sortBy, mem_toIndexes hnd, assemble_extents]
    exact exists_congr fun d => and_congr_right fun _ => S.mem_lower h hrm
  case lower_sorted => rw [mkConcept_lower, assemble_extents]; exact lo hrm
  case atoms => rw [assemble_upperAt0, assemble_extents]; rfl
  case dindex => unfold LatticeSpec.dorder; rw [assemble_extents, assemble_length]; rfl

theorem mkLattice_spec {K : Ctx} (h : K.WF) : LatticeSpec K (mkLattice K) :=
  assemble_spec h (lindigLattice_spec h)

/-- the lattice of the example context of C06, C07, C09 and C11 (objects `0,1,2`, rows `{p0,p1}`, `{p0}`, `{p1,p2}`),
evaluated once for the examples there -/
theorem exK_lattice : mkLattice (mkCtx 3 3 #[0b011, 0b001, 0b110]) =
    [⟨0, 7, [1, 2], [], 0, 5, [], [], []⟩, ⟨1, 3, [3, 4], [0], 1, 3, [1], [0], []⟩,
     ⟨4, 6, [4], [0], 2, 4, [2], [2], [2]⟩, ⟨3, 1, [5], [1], 3, 1, [1], [1], [0]⟩,
     ⟨5, 2, [5], [1, 2], 4, 2, [1, 2], [], [1]⟩, ⟨7, 0, [], [3, 4], 5, 0, [1, 2], [], []⟩] := by decide +kernel

end FCA
