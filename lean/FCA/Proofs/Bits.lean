import FCA.Model.Bits
import FCA.Proofs.Prelude
/- Masks as sets: a `Nat` bit mask is reasoned about through its members (`∈ᵇ`, `ext`); the mask equations of the
code (`x & y == x`, `x & ~y == 0`, …) are read on the members. -/
namespace FCA

/-! ### members -/

def mem (i s : Nat) : Prop := s.testBit i = true
infix:50 " ∈ᵇ " => mem

instance (i s : Nat) : Decidable (i ∈ᵇ s) := by unfold mem; infer_instance

@[simp] theorem mem_and {i a b : Nat} : i ∈ᵇ (a &&& b) ↔ i ∈ᵇ a ∧ i ∈ᵇ b := by
  simp [mem, Nat.testBit_and]
@[simp] theorem mem_or {i a b : Nat} : i ∈ᵇ (a ||| b) ↔ i ∈ᵇ a ∨ i ∈ᵇ b := by
  simp [mem, Nat.testBit_or]
@[simp] theorem mem_andNot {i a b : Nat} : i ∈ᵇ andNot a b ↔ i ∈ᵇ a ∧ ¬ i ∈ᵇ b := by
  simp only [mem, andNot, Nat.testBit_xor, Nat.testBit_and]
  cases a.testBit i <;> cases b.testBit i <;> simp
@[simp] theorem mem_pow {i g : Nat} : i ∈ᵇ (2 ^ g) ↔ i = g := by
  simp [mem, Nat.testBit_two_pow, eq_comm]
@[simp] theorem not_mem_zero {i : Nat} : ¬ i ∈ᵇ 0 := by simp [mem]
@[simp] theorem mem_full {i k : Nat} : i ∈ᵇ full k ↔ i < k := by
  simp [mem, full, Nat.testBit_two_pow_sub_one]
@[simp] theorem mem_shiftRight {i a k : Nat} : i ∈ᵇ (a >>> k) ↔ (k + i) ∈ᵇ a := by
  simp [mem, Nat.testBit_shiftRight]

theorem ext {a b : Nat} (h : ∀ i, i ∈ᵇ a ↔ i ∈ᵇ b) : a = b :=
  Nat.eq_of_testBit_eq fun i => Bool.eq_iff_iff.mpr (h i)

theorem ext_iff {a b : Nat} : a = b ↔ ∀ i, i ∈ᵇ a ↔ i ∈ᵇ b :=
  ⟨fun h _ => by rw [h], ext⟩

theorem eq_zero_iff {a : Nat} : a = 0 ↔ ∀ i, ¬ i ∈ᵇ a := by
  rw [ext_iff]; simp

theorem ne_zero_iff {a : Nat} : a ≠ 0 ↔ ∃ i, i ∈ᵇ a := by
  rw [Ne, eq_zero_iff]; push Not; rfl

/-! ### subsets -/

def sub (a b : Nat) : Prop := ∀ i, i ∈ᵇ a → i ∈ᵇ b
infix:50 " ⊆ᵇ " => sub

theorem sub_refl (a : Nat) : a ⊆ᵇ a := fun _ h => h
theorem sub_trans {a b c : Nat} (h1 : a ⊆ᵇ b) (h2 : b ⊆ᵇ c) : a ⊆ᵇ c := fun i h => h2 i (h1 i h)
theorem sub_antisymm {a b : Nat} (h1 : a ⊆ᵇ b) (h2 : b ⊆ᵇ a) : a = b :=
  ext fun i => ⟨h1 i, h2 i⟩
theorem sub_antisymm_iff {a b : Nat} : a = b ↔ a ⊆ᵇ b ∧ b ⊆ᵇ a :=
  ⟨fun h => h ▸ ⟨sub_refl a, sub_refl a⟩, fun h => sub_antisymm h.1 h.2⟩
theorem ssub_trans {a b c : Nat} (h1 : a ⊆ᵇ b ∧ a ≠ b) (h2 : b ⊆ᵇ c ∧ b ≠ c) : a ⊆ᵇ c ∧ a ≠ c :=
  ⟨sub_trans h1.1 h2.1, fun e => h1.2 (sub_antisymm h1.1 (e ▸ h2.1))⟩
theorem zero_sub (a : Nat) : 0 ⊆ᵇ a := fun _ h => absurd h not_mem_zero

theorem not_sub_iff {a b : Nat} : ¬ a ⊆ᵇ b ↔ ∃ i, i ∈ᵇ a ∧ ¬ i ∈ᵇ b := by
  unfold sub
  push Not
  rfl

theorem exists_mem_not_mem {a b : Nat} (h : a ⊆ᵇ b) (hne : a ≠ b) : ∃ i, i ∈ᵇ b ∧ ¬ i ∈ᵇ a :=
  not_sub_iff.mp fun h' => hne (sub_antisymm h h')

theorem insert_sub_iff {G g D : Nat} : (G ||| 2 ^ g) ⊆ᵇ D ↔ G ⊆ᵇ D ∧ g ∈ᵇ D :=
  ⟨fun h => ⟨fun i hi => h i (mem_or.mpr (.inl hi)), h g (mem_or.mpr (.inr (mem_pow.mpr rfl)))⟩,
   fun h i hi => (mem_or.mp hi).elim (h.1 i) fun e => mem_pow.mp e ▸ h.2⟩

/-! ### mask equations read on the members -/

theorem and_eq_left_iff {x y : Nat} : x &&& y = x ↔ x ⊆ᵇ y := by
  rw [ext_iff]
  exact forall_congr' fun i => by rw [mem_and, and_iff_left_iff_imp]

theorem or_eq_left_iff {x y : Nat} : x ||| y = x ↔ y ⊆ᵇ x := by
  rw [ext_iff]
  exact forall_congr' fun i => by rw [mem_or, or_iff_left_iff_imp]

theorem and_ne_zero_iff {x y : Nat} : x &&& y ≠ 0 ↔ ∃ i, i ∈ᵇ x ∧ i ∈ᵇ y := by
  rw [ne_zero_iff]; exact exists_congr fun _ => mem_and

theorem and_eq_zero_iff_forall {a b : Nat} : a &&& b = 0 ↔ ∀ i, ¬ (i ∈ᵇ a ∧ i ∈ᵇ b) := by
  rw [eq_zero_iff]
  exact forall_congr' fun i => by rw [mem_and]

/-! the code also writes these with the sides exchanged (`y == x | y`, `0 == x & y`, …) -/
theorem eq_and_left_iff {x y : Nat} : x = x &&& y ↔ x ⊆ᵇ y := by rw [eq_comm]; exact and_eq_left_iff
theorem eq_and_right_iff {x y : Nat} : y = x &&& y ↔ y ⊆ᵇ x := by rw [eq_comm, Nat.and_comm]; exact and_eq_left_iff
theorem eq_or_left_iff {x y : Nat} : x = x ||| y ↔ y ⊆ᵇ x := by rw [eq_comm]; exact or_eq_left_iff
theorem eq_or_right_iff {x y : Nat} : y = x ||| y ↔ x ⊆ᵇ y := by rw [eq_comm, Nat.or_comm]; exact or_eq_left_iff
theorem zero_eq_and_iff {x y : Nat} : 0 = x &&& y ↔ ¬ ∃ i, i ∈ᵇ x ∧ i ∈ᵇ y := by
  rw [eq_comm]; exact and_eq_zero_iff_forall.trans not_exists.symm

theorem and_self_mask (a : Nat) : a &&& a = a := Nat.and_self a
theorem or_self_mask (a : Nat) : a ||| a = a := Nat.or_self a

theorem pow_and_ne_zero_iff {j b : Nat} : 2 ^ j &&& b ≠ 0 ↔ j ∈ᵇ b := by
  rw [and_ne_zero_iff]
  simp

theorem andNot_eq_zero_iff {a b : Nat} : andNot a b = 0 ↔ a ⊆ᵇ b := by
  rw [eq_zero_iff]
  exact forall_congr' fun i => by rw [mem_andNot, not_and, not_not]

theorem or_eq_iff_forall {x y t : Nat} (hx : x ⊆ᵇ t) (hy : y ⊆ᵇ t) :
    x ||| y = t ↔ ∀ i, i ∈ᵇ t → i ∈ᵇ x ∨ i ∈ᵇ y :=
  ⟨fun h _ hi => mem_or.mp (h ▸ hi),
   fun h => ext fun i => mem_or.trans ⟨fun hi => hi.elim (hx i) (hy i), h i⟩⟩

theorem le_of_sub {a b : Nat} (h : a ⊆ᵇ b) : a ≤ b := Nat.le_of_testBit h

theorem lt_of_sub_ne {a b : Nat} (h : a ⊆ᵇ b) (hne : a ≠ b) : a < b :=
  lt_of_le_of_ne (le_of_sub h) hne

/-! ### bounds -/

def Bounded (k a : Nat) : Prop := ∀ i, i ∈ᵇ a → i < k

theorem bounded_iff_lt {k a : Nat} : Bounded k a ↔ a < 2 ^ k := by
  constructor
  · intro h
    apply Nat.lt_pow_two_of_testBit
    intro j hj
    exact Bool.eq_false_iff.mpr fun hm => absurd (h j hm) (by omega)
  · intro h i hi
    by_contra hik
    have := Nat.testBit_lt_two_pow (lt_of_lt_of_le h (Nat.pow_le_pow_right Nat.two_pos (not_lt.mp hik)))
    exact absurd hi (by simp [mem, this])

theorem bounded_iff_sub_full {k a : Nat} : Bounded k a ↔ a ⊆ᵇ full k :=
  ⟨fun h i hi => mem_full.mpr (h i hi), fun h i hi => mem_full.mp (h i hi)⟩

theorem bounded_full (k : Nat) : Bounded k (full k) := fun _ h => mem_full.mp h
theorem bounded_zero (k : Nat) : Bounded k 0 := fun _ h => absurd h not_mem_zero
theorem bounded_sub {k a b : Nat} (h : a ⊆ᵇ b) (hb : Bounded k b) : Bounded k a := fun i hi => hb i (h i hi)
theorem bounded_pow {k g : Nat} (h : g < k) : Bounded k (2 ^ g) := fun _ hi => mem_pow.mp hi ▸ h
theorem bounded_or {k a b : Nat} (ha : Bounded k a) (hb : Bounded k b) : Bounded k (a ||| b) :=
  fun i hi => (mem_or.mp hi).elim (ha i) (hb i)
theorem bounded_or_pow {k a g : Nat} (ha : Bounded k a) (hg : g < k) : Bounded k (a ||| 2 ^ g) :=
  bounded_or ha (bounded_pow hg)

theorem eq_iff_forall_lt {n a b : Nat} (ha : Bounded n a) (hb : Bounded n b) :
    a = b ↔ ∀ i, i < n → (i ∈ᵇ a ↔ i ∈ᵇ b) := by
  rw [ext_iff]
  exact ⟨fun h i _ => h i, fun h i => (lt_or_ge i n).elim (h i) fun hi =>
    ⟨fun h' => absurd (ha i h') (not_lt.mpr hi), fun h' => absurd (hb i h') (not_lt.mpr hi)⟩⟩

theorem or_eq_full_iff {n a b : Nat} (ha : Bounded n a) (hb : Bounded n b) :
    a ||| b = full n ↔ ∀ i, i < n → i ∈ᵇ a ∨ i ∈ᵇ b := by
  rw [or_eq_iff_forall (bounded_iff_sub_full.mp ha) (bounded_iff_sub_full.mp hb)]
  simp only [mem_full]

theorem or_ne_full_iff {n a b : Nat} (ha : Bounded n a) (hb : Bounded n b) :
    a ||| b ≠ full n ↔ ∃ i, i < n ∧ ¬ i ∈ᵇ a ∧ ¬ i ∈ᵇ b := by
  rw [Ne, or_eq_full_iff ha hb]
  push Not
  rfl

theorem andNot_full_eq_zero_iff {n x : Nat} (hx : Bounded n x) : andNot (full n) x = 0 ↔ x = full n := by
  rw [andNot_eq_zero_iff]
  exact ⟨fun h => sub_antisymm (bounded_iff_sub_full.mp hx) h, fun h => h ▸ sub_refl _⟩

/-! ### trailing zeros, shifts, folds -/

theorem tz_spec (n : Nat) (h : n ≠ 0) : tz n ∈ᵇ n ∧ ∀ k < tz n, ¬ k ∈ᵇ n := by
  simp only [mem, Bool.not_eq_true]
  induction n using tz.induct with
  | case1 => exact absurd rfl h
  | case2 n hodd =>
    rw [tz, if_pos hodd]
    exact ⟨by simp [Nat.testBit_zero, hodd], fun k hk => absurd hk (Nat.not_lt_zero k)⟩
  | case3 n heven ih =>
    rw [tz, if_neg heven]
    obtain ⟨h1, h2⟩ := ih (by omega)
    refine ⟨by rwa [Nat.add_comm 1, Nat.testBit_succ], fun k hk => ?_⟩
    cases k with
    | zero => simpa [Nat.testBit_zero] using heven
    | succ k => rw [Nat.testBit_succ]; exact h2 k (by omega)

/-- a non-zero number has no trailing zero iff it is odd (the two ways of writing the test in the loop) -/
theorem tz_eq_zero_iff_odd {b : Nat} (hb : b ≠ 0) : tz b = 0 ↔ b % 2 = 1 := by
  cases b with
  | zero => exact absurd rfl hb
  | succ n =>
    rw [tz]
    by_cases h : (n + 1) % 2 = 1
    · simp [h]
    · simp only [h, if_false]
      constructor
      · intro h0; omega
      · intro h1; exact h1.elim

theorem forall_mem_split (b s : Nat) (P : Nat → Prop) :
    (∀ k, k ∈ᵇ b → P k) ↔ (∀ k, k < s → k ∈ᵇ b → P k) ∧ ∀ k, k ∈ᵇ (b >>> s) → P (s + k) := by
  simp only [mem_shiftRight]
  refine ⟨fun h => ⟨fun k _ => h k, fun k => h (s + k)⟩, fun ⟨h1, h2⟩ k hk => ?_⟩
  by_cases hks : k < s
  · exact h1 k hks hk
  · have := h2 (k - s)
    rw [Nat.add_sub_cancel' (not_lt.mp hks)] at this
    exact this hk

/-- the masks the model builds by a loop over a list are folds of this kind: `ofMembers`, `reinv`, `colsOf`,
`rowMask`, `mapMask`, the union of `join` -/
theorem mem_foldl_of_step {α : Type} {g : Nat → α → Nat} {P : α → Nat → Prop}
    (hg : ∀ acc k i, i ∈ᵇ g acc k ↔ i ∈ᵇ acc ∨ P k i) (l : List α) (init i : Nat) :
    i ∈ᵇ l.foldl g init ↔ i ∈ᵇ init ∨ ∃ k ∈ l, P k i := by
  induction l generalizing init with
  | nil => exact (or_iff_left fun ⟨_, hk, _⟩ => List.not_mem_nil hk).symm
  | cons a l ih => simp only [List.foldl_cons, ih, hg, List.exists_mem_cons_iff, or_assoc]

theorem mem_ite_or_pow {c : Prop} [Decidable c] {B m j : Nat} :
    j ∈ᵇ (if c then B ||| 2 ^ m else B) ↔ j ∈ᵇ B ∨ (j = m ∧ c) := by
  split
  · rw [mem_or, mem_pow, and_iff_left ‹c›]
  · rw [or_iff_left fun h : j = m ∧ c => ‹¬ c› h.2]

end FCA
