import FCA.Model.Fcbo
/-
The inner loop of `fast_generate_from` / `fcbo_dual` as a fold of one step: every statement about
`fcboInner`, the stack machine's `stackInner` and the regenerated loop bodies goes through `fcboStep`.
-/
namespace FCA

/-- one pass of the loop body for candidate `j`: the list `sets` afterwards and the child pushed, if any -/
def fcboStep (S : Side) (nd : FNode) (sets : Array Nat) (j : Nat) : Array Nat × Option (Nat × FNode) :=
  if 2 ^ j &&& nd.own ≠ 0 then (sets, none) else
  if sets[j]! &&& (2 ^ j - 1) &&& nd.own = sets[j]! &&& (2 ^ j - 1) then
    if S.prime (nd.other &&& S.col j) &&& (2 ^ j - 1) &&& nd.own = S.prime (nd.other &&& S.col j) &&& (2 ^ j - 1) then
      (sets, some (j, ⟨S.prime (nd.other &&& S.col j), nd.other &&& S.col j⟩))
    else (sets.set! j (S.prime (nd.other &&& S.col j)), none)
  else (sets, none)

theorem fcboInner_cons (S : Side) (nd : FNode) (j : Nat) (js : List Nat) (sets : Array Nat)
    (acc : List (Nat × FNode)) :
    fcboInner S nd (j :: js) sets acc =
      fcboInner S nd js (fcboStep S nd sets j).1 ((fcboStep S nd sets j).2.toList ++ acc) := by
  -- the continuation moves inside the three tests of `fcboStep`; the branches then agree literally
  have push := @apply_ite _ _ fun r : Array Nat × Option (Nat × FNode) => fcboInner S nd js r.1 (r.2.toList ++ acc)
  rw [fcboInner, fcboStep, push, push, push]
  rfl

/-- every branch of `fcboStep` yields `none` or `some (j, _)` -/
theorem fcboStep_fst (S : Side) (nd : FNode) (sets : Array Nat) (j : Nat) :
    ∀ p ∈ (fcboStep S nd sets j).2, p.1 = j := by
  have push := @apply_ite _ _ fun r : Array Nat × Option (Nat × FNode) => ∀ p ∈ r.2, p.1 = j
  have h0 : ∀ p ∈ (none : Option (Nat × FNode)), p.1 = j := fun _ h => nomatch h
  have h1 : ∀ x : FNode, ∀ p ∈ some (j, x), p.1 = j := fun x p h => by cases h; rfl
  rw [fcboStep, push, push, push]
  have both : ∀ (c : Prop) [Decidable c] {A B : Prop}, A → B → if c then A else B := fun c _ _ _ ha hb => by
    split <;> assumption
  exact both _ h0 (both _ (both _ (h1 _) h0) h0)

theorem fcboInner_acc (S : Side) (nd : FNode) : ∀ (js : List Nat) (sets : Array Nat) (acc : List (Nat × FNode)),
    fcboInner S nd js sets acc =
      (acc.reverse ++ (fcboInner S nd js sets []).1, (fcboInner S nd js sets []).2) := by
  intro js
  induction js with
  | nil => intro sets acc; simp [fcboInner]
  | cons j js ih =>
    intro sets acc
    rw [fcboInner_cons, fcboInner_cons, ih, ih _ (_ ++ [])]
    simp

theorem fcboInner_cons_nil (S : Side) (nd : FNode) (j : Nat) (js : List Nat) (sets : Array Nat) :
    fcboInner S nd (j :: js) sets [] =
      ((fcboStep S nd sets j).2.toList ++ (fcboInner S nd js (fcboStep S nd sets j).1 []).1,
        (fcboInner S nd js (fcboStep S nd sets j).1 []).2) := by
  rw [fcboInner_cons, fcboInner_acc]
  cases (fcboStep S nd sets j).2 <;> rfl

theorem fcboNode_succ_eq (S : Side) (fuel : Nat) (nd : FNode) (idx : Nat) (sets : Array Nat) :
    fcboNode S (fuel + 1) nd idx sets =
      nd :: (if idx = S.width ∨ nd.other = 0 then [] else
        (fcboInner S nd (List.range' idx (S.width - idx)).reverse sets []).1.reverse.flatMap fun p =>
          fcboNode S fuel p.2 (p.1 + 1) (fcboInner S nd (List.range' idx (S.width - idx)).reverse sets []).2) := by
  rw [fcboNode]

theorem mem_range'_sub {y w j : Nat} : j ∈ List.range' y (w - y) ↔ y ≤ j ∧ j < w := by
  rw [List.mem_range'_1]; omega

end FCA
