import FCA.Proofs.FormatsStr
/-
Label predicates of the text formats and the `.cxt` round trip.
-/
namespace FCA

/-- label accepted by the Burmeister `.cxt` format: non-empty, no leading/trailing whitespace,
no line break -/
def CxtLabel (s : Str) : Prop :=
  s ≠ [] ∧ (∀ c ∈ s.head?, isSpace c = false) ∧ (∀ c ∈ s.getLast?, isSpace c = false) ∧ '\n' ∉ s

/-- label accepted by the ASCII-art table format: as for `.cxt`, and no `|`, no `#` -/
def TableLabel (s : Str) : Prop :=
  s ≠ [] ∧ (∀ c ∈ s.head?, isSpace c = false) ∧ (∀ c ∈ s.getLast?, isSpace c = false) ∧
    '\n' ∉ s ∧ '|' ∉ s ∧ '#' ∉ s

instance (s : Str) : Decidable (CxtLabel s) := by unfold CxtLabel; infer_instance
instance (s : Str) : Decidable (TableLabel s) := by unfold TableLabel; infer_instance

/-- objects × properties table of the right shape, at least one object and one property -/
def Rect (objects properties : List Str) (bools : List (List Bool)) : Prop :=
  objects ≠ [] ∧ properties ≠ [] ∧ bools.length = objects.length ∧
    ∀ r ∈ bools, r.length = properties.length

instance (o p : List Str) (b : List (List Bool)) : Decidable (Rect o p b) := by
  unfold Rect; infer_instance

theorem Rect.row_ne_nil {objects properties : List Str} {bools : List (List Bool)}
    (h : Rect objects properties bools) : ∀ r ∈ bools, r ≠ [] := fun r hr e =>
  h.2.1 (List.eq_nil_of_length_eq_zero (by rw [← h.2.2.2 r hr, e]; rfl))

/-- no whitespace at either end, and not empty: what `strip()` leaves alone -/
structure Trimmed (s : Str) : Prop where
  ne : s ≠ []
  head : ∀ c ∈ s.head?, isSpace c = false
  last : ∀ c ∈ s.getLast?, isSpace c = false

/-- what the table loader needs of a cell of a line: not empty, and none of `|`, `#`, line break -/
structure CellLike (cell : Str) : Prop where
  ne : cell ≠ []
  bar : '|' ∉ cell
  hash : '#' ∉ cell
  nl : '\n' ∉ cell

theorem Trimmed.last_ne_space {s : Str} (h : Trimmed s) : ∀ c ∈ s.getLast?, c ≠ ' ' :=
  fun c hc he => absurd (he ▸ h.last c hc) (by decide)

theorem CxtLabel.trimmed {s : Str} (h : CxtLabel s) : Trimmed s := ⟨h.1, h.2.1, h.2.2.1⟩

theorem TableLabel.trimmed {s : Str} (h : TableLabel s) : Trimmed s := ⟨h.1, h.2.1, h.2.2.1⟩

theorem TableLabel.cellLike {s : Str} (h : TableLabel s) : CellLike s :=
  ⟨h.1, h.2.2.2.2.1, h.2.2.2.2.2, h.2.2.2.1⟩

theorem Trimmed.strip {s : Str} (h : Trimmed s) {b : Str} (hb : ∀ c ∈ b, isSpace c = true) :
    strip (s ++ b) = s :=
  stripBy_pad (a := []) (fun _ h => nomatch h) hb h.head h.last

theorem Trimmed.joinWith {sep : Str} {ls : List Str} (hne : ls ≠ []) (h : ∀ l ∈ ls, Trimmed l) :
    Trimmed (joinWith sep ls) := by
  obtain ⟨x, xs, rfl⟩ := List.exists_cons_of_ne_nil hne
  refine ⟨joinWith_ne_nil (h x (by simp)).ne xs, ?_,
    getLast?_joinWith fun l hl => ⟨(h l hl).ne, (h l hl).last⟩⟩
  rw [head?_joinWith (h x (by simp)).ne]
  exact (h x (by simp)).head

theorem map_strip_lines {ls : List Str} (h : ∀ l ∈ ls, Trimmed l) : ls.map strip = ls := by
  conv_rhs => rw [← List.map_id ls]
  exact List.map_congr_left fun l hl => by simpa using (h l hl).strip (b := []) (by simp)

theorem IsWord.cxt {w : Str} (h : IsWord w) : CxtLabel w :=
  ⟨h.1, fun c hc => h.2 c (List.mem_of_mem_head? hc), fun c hc => h.2 c (List.mem_of_getLast? hc),
    fun hm => by simpa [isSpace_nl] using h.2 _ hm⟩

def rowStr (row : List Bool) : Str := row.map fun b => if b then 'X' else '.'

theorem length_rowStr (row : List Bool) : (rowStr row).length = row.length := List.length_map _

theorem dumpCxt_eq (objects properties : List Str) (bools : List (List Bool)) :
    dumpCxt objects properties bools =
      unlines (['B'] :: [] :: (toString objects.length).toList :: (toString properties.length).toList ::
        [] :: (objects ++ properties ++ bools.map rowStr)) := rfl

theorem isSpace_rowStr (row : List Bool) : ∀ c ∈ rowStr row, isSpace c = false := by
  simp only [rowStr, List.forall_mem_map]
  intro b _
  cases b <;> decide

theorem rowStr_CxtLabel {row : List Bool} (hne : row ≠ []) : CxtLabel (rowStr row) :=
  IsWord.cxt ⟨by simpa [rowStr] using hne, isSpace_rowStr row⟩

/-- the block of lines is cut according to the two numbers, whatever it holds -/
theorem loadCxt_unlines {N M : Str} {n m : Nat}
    (hn : parseNat? N = some n) (hm : parseNat? M = some m) {body : List Str} (hne : body ≠ [])
    (hb : ∀ l ∈ body, CxtLabel l) :
    loadCxt (unlines (['B'] :: [] :: N :: M :: [] :: body)) =
      if ((body.drop (n + m)).map fun l => l.map fun c =>
          if c == 'X' then some true else if c == '.' then some false else none).all
            (·.all Option.isSome) then
        .ok (body.take n, (body.drop n).take m, ((body.drop (n + m)).map fun l => l.map fun c =>
          if c == 'X' then some true else if c == '.' then some false else none).map
            (·.map (·.getD false)))
      else .error .keyError := by
  have hnum : ∀ l ∈ [N, M], IsWord l :=
    List.forall_mem_cons.2 ⟨isWord_of_parseNat? hn, List.forall_mem_singleton.2 (isWord_of_parseNat? hm)⟩
  have hbody : Trimmed (joinWith ['\n'] body) := .joinWith hne fun l hl => (hb l hl).trimmed
  -- three blocks separated by blank lines; `strip()` removes the final line break
  have hstrip : strip (unlines (['B'] :: [] :: N :: M :: [] :: body)) =
      joinWith ['\n', '\n'] [['B'], joinWith ['\n'] [N, M], joinWith ['\n'] body] := by
    have e : unlines (['B'] :: [] :: N :: M :: [] :: body) =
        joinWith ['\n', '\n'] [['B'], joinWith ['\n'] [N, M], joinWith ['\n'] body] ++ ['\n'] := by
      simp [unlines_cons, unlines_eq_joinWith hne, joinWith]
    rw [e]
    refine Trimmed.strip (.joinWith (by simp) ?_) (by simp [isSpace_nl])
    simp only [List.forall_mem_cons, List.not_mem_nil, false_imp_iff, implies_true, and_true]
    exact ⟨(show CxtLabel ['B'] by decide).trimmed,
      .joinWith (by simp) fun l hl => (hnum l hl).cxt.trimmed, hbody⟩
  have hsplit : splitBlank (strip (unlines (['B'] :: [] :: N :: M :: [] :: body))) =
      [['B'], joinWith ['\n'] [N, M], joinWith ['\n'] body] := by
    rw [hstrip]
    exact splitBlank_joinWith (blocks := [[['B']], [N, M], body]) (by simp)
      (List.forall_mem_cons.2 ⟨by decide, List.forall_mem_cons.2
        ⟨fun l hl => ⟨(hnum l hl).cxt.1, (hnum l hl).cxt.2.2.2⟩,
          List.forall_mem_singleton.2 fun l hl => ⟨(hb l hl).1, (hb l hl).2.2.2⟩⟩⟩)
  have hws : (splitWs (joinWith ['\n'] [N, M])).map parseNat? = [some n, some m] := by
    rw [splitWs_joinWith isSpace_nl hnum, List.map_cons, List.map_cons, hn, hm, List.map_nil]
  have hl : (splitChar '\n' (strip (joinWith ['\n'] body))).map strip = body := by
    rw [← List.append_nil (joinWith _ _), hbody.strip (by simp),
      splitChar_joinWith hne fun l hl => (hb l hl).2.2.2, map_strip_lines fun l hl => (hb l hl).trimmed]
  unfold loadCxt
  simp only [hsplit, hws, hl]

theorem cxtBody_parts (objects properties rows : List Str) :
    (objects ++ properties ++ rows).take objects.length = objects ∧
    ((objects ++ properties ++ rows).drop objects.length).take properties.length = properties ∧
    (objects ++ properties ++ rows).drop (objects.length + properties.length) = rows := by
  refine ⟨?_, ?_, ?_⟩
  · rw [List.append_assoc, List.take_left']; rfl
  · rw [List.append_assoc, List.drop_left', List.take_left'] <;> rfl
  · rw [← List.length_append, List.drop_left']; rfl

theorem decode_rowStr (row : List Bool) :
    ((rowStr row).map fun c =>
      if c == 'X' then some true else if c == '.' then some false else none) = row.map some := by
  simp only [rowStr, List.map_map]
  apply List.map_congr_left
  intro b _
  cases b <;> rfl

theorem loadCxt_dumpCxt {objects properties : List Str} {bools : List (List Bool)}
    (hp : properties ≠ []) (hb : ∀ r ∈ bools, r ≠ [])
    (ho : ∀ o ∈ objects, CxtLabel o) (hpl : ∀ p ∈ properties, CxtLabel p) :
    loadCxt (dumpCxt objects properties bools) = .ok (objects, properties, bools) := by
  have hlines : ∀ l ∈ objects ++ properties ++ bools.map rowStr, CxtLabel l := by
    intro l hl
    simp only [List.mem_append, List.mem_map] at hl
    rcases hl with (hl | hl) | ⟨r, hr, rfl⟩
    · exact ho l hl
    · exact hpl l hl
    · exact rowStr_CxtLabel (hb r hr)
  obtain ⟨h1, h2, h3⟩ := cxtBody_parts objects properties (bools.map rowStr)
  have h5 : (bools.map fun r => r.map some).all (·.all Option.isSome) = true := by
    simp [List.all_eq_true]
  rw [dumpCxt_eq, loadCxt_unlines (parseNat?_toString _) (parseNat?_toString _) (by simp [hp]) hlines,
    h1, h2, h3]
  simp only [List.map_map, Function.comp_def, decode_rowStr, h5, if_true]
  simp

end FCA
