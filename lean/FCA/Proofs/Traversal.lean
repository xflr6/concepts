import FCA.Proofs.Iterunion
import FCA.Proofs.LatticeSpec
/-
In a lattice satisfying `LatticeSpec` reachability along `upper_neighbors` / `lower_neighbors` is the order of the
extents, and (`index`, `upper_neighbors`), (`dindex`, `lower_neighbors`) meet the hypotheses of `iterunion`: what
`upsetUnion` / `downsetUnion` yield.  Concepts are positions `k < L.length`, their extents `L.extentAt k`.
-/
namespace FCA.C09
open FCA.Lattice

variable {K : Ctx} {L : Lattice}

/-- `Concept.properly_subsumes` on positions: the extent of `x` properly contains that of `y` -/
def properlySubsumes (L : Lattice) (x y : Nat) : Bool :=
  (L.extentAt x ||| L.extentAt y == L.extentAt x) && (L.extentAt x != L.extentAt y)

/-- `Concept.properly_implies` on positions: the extent of `x` is properly contained in that of `y` -/
def properlyImplies (L : Lattice) (x y : Nat) : Bool :=
  (L.extentAt x &&& L.extentAt y == L.extentAt x) && (L.extentAt x != L.extentAt y)

theorem properlySubsumes_iff (L : Lattice) (x y : Nat) :
    properlySubsumes L x y = true ↔ L.extentAt y ⊆ᵇ L.extentAt x ∧ L.extentAt y ≠ L.extentAt x := by
  unfold properlySubsumes
  rw [Bool.and_eq_true, beq_iff_eq, bne_iff_ne, FCA.or_eq_left_iff, ne_comm]

theorem properlyImplies_iff (L : Lattice) (x y : Nat) :
    properlyImplies L x y = true ↔ L.extentAt x ⊆ᵇ L.extentAt y ∧ L.extentAt x ≠ L.extentAt y := by
  unfold properlyImplies
  rw [Bool.and_eq_true, beq_iff_eq, bne_iff_ne, FCA.and_eq_left_iff]

theorem minSeeds_union (L : Lattice) (cs : List Nat) (e : Nat) :
    (∃ m ∈ maximalBy (properlySubsumes L) cs, L.extentAt m ⊆ᵇ e) ↔ ∃ c ∈ cs, L.extentAt c ⊆ᵇ e :=
  maximalBy_exists_iff (properlySubsumes_iff L) (fun _ h => h.2 rfl) (fun h1 h2 => ssub_trans h2 h1) cs
    fun hlt h => sub_trans hlt.1 h

theorem maxSeeds_union (L : Lattice) (cs : List Nat) (e : Nat) :
    (∃ m ∈ maximalBy (properlyImplies L) cs, e ⊆ᵇ L.extentAt m) ↔ ∃ c ∈ cs, e ⊆ᵇ L.extentAt c :=
  maximalBy_exists_iff (properlyImplies_iff L) (fun _ h => h.2 rfl) ssub_trans cs fun hlt h => sub_trans h hlt.1

theorem reach_upper_sound (S : LatticeSpec K L) {c d : Nat} (hr : Reach L.upperAt c d) (hc : c < L.length) :
    d < L.length ∧ L.extentAt c ⊆ᵇ L.extentAt d := by
  induction hr with
  | refl a => exact ⟨hc, sub_refl _⟩
  | step hd _ ih =>
    rw [upperAt_get (List.getElem?_eq_getElem hc)] at hd
    obtain ⟨dd, hdd, hcv⟩ := S.upper_get (List.getElem?_eq_getElem hc) hd
    obtain ⟨hx, hs⟩ := ih (lt_of_get hdd)
    exact ⟨hx, sub_trans (by rw [extentAt_get hdd, extentAt_get (List.getElem?_eq_getElem hc)]; exact hcv.2.1) hs⟩

/-- from `LindigAbs.Reach` (built at the tail, the one `closed_reach_from` delivers) to `C09.Reach` (built at the head),
hence `Reach.snoc`; `G = cc.extent →` because `induction` wants the source of the chain to be a variable -/
theorem reach_upper_complete_aux (S : LatticeSpec K L) {c : Nat} {cc : LConcept} (hc : L[c]? = some cc)
    {G x : Nat} (hr : LindigAbs.Reach (nbExt K) G x) :
    G = cc.extent → ∃ j dd, L[j]? = some dd ∧ dd.extent = x ∧ Reach L.upperAt c j := by
  induction hr with
  | refl => intro h; exact ⟨c, cc, hc, h.symm, Reach.refl _⟩
  | step _ hx ih =>
    intro h
    obtain ⟨i, dd, hdd, rfl, hri⟩ := ih h
    have hcv := (mem_nbExt S.wf (S.closed hdd)).mp hx
    obtain ⟨xx, hxm, hxe⟩ := S.exists_of_closed hcv.1
    have hxx := S.get_index hxm
    exact ⟨_, xx, hxx, hxe, Reach.snoc hri (by rw [upperAt_get hdd, S.mem_upper_iff hdd]; exact ⟨xx, hxx, hxe ▸ hcv⟩)⟩

theorem reach_upper_iff (S : LatticeSpec K L) {c : Nat} (hc : c < L.length) (d : Nat) :
    Reach L.upperAt c d ↔ d < L.length ∧ L.extentAt c ⊆ᵇ L.extentAt d := by
  refine ⟨fun hr => reach_upper_sound S hr hc, fun ⟨hd, hs⟩ => ?_⟩
  have hcc := List.getElem?_eq_getElem hc
  have hdd := List.getElem?_eq_getElem hd
  rw [extentAt_get hcc, extentAt_get hdd] at hs
  obtain ⟨j, dd', hj, he, hrj⟩ :=
    reach_upper_complete_aux S hcc (closed_reach_from S.wf (S.closed hcc) _ _ rfl (S.closed hdd) hs) rfl
  rwa [S.pos_inj hj hdd he] at hrj

theorem reach_lower_sound (S : LatticeSpec K L) {c d : Nat} (hr : Reach L.lowerAt c d) (hc : c < L.length) :
    d < L.length ∧ L.extentAt d ⊆ᵇ L.extentAt c := by
  induction hr with
  | refl a => exact ⟨hc, sub_refl _⟩
  | step hd _ ih =>
    rw [lowerAt_get (List.getElem?_eq_getElem hc)] at hd
    obtain ⟨dd, hdd, hcv⟩ := S.lower_get (List.getElem?_eq_getElem hc) hd
    obtain ⟨hx, hs⟩ := ih (lt_of_get hdd)
    exact ⟨hx, sub_trans hs (by rw [extentAt_get hdd, extentAt_get (List.getElem?_eq_getElem hc)]; exact hcv.2.1)⟩

/-- the neighbor links are converse to each other, hence so are the chains -/
theorem reach_lower_of_upper (S : LatticeSpec K L) {d c : Nat} (hr : Reach L.upperAt d c) (hd : d < L.length) :
    Reach L.lowerAt c d := by
  induction hr with
  | refl a => exact Reach.refl _
  | step hj _ ih =>
    have haa := List.getElem?_eq_getElem hd
    rw [upperAt_get haa] at hj
    obtain ⟨jj, hjj, _⟩ := S.upper_get haa hj
    exact Reach.snoc (ih (lt_of_get hjj)) (by rw [lowerAt_get hjj]; exact (S.mem_upper_iff_mem_lower haa hjj).mp hj)

theorem reach_lower_iff (S : LatticeSpec K L) {c : Nat} (hc : c < L.length) (d : Nat) :
    Reach L.lowerAt c d ↔ d < L.length ∧ L.extentAt d ⊆ᵇ L.extentAt c :=
  ⟨fun hr => reach_lower_sound S hr hc,
    fun ⟨hd, hs⟩ => reach_lower_of_upper S ((reach_upper_iff S hd c).mpr ⟨hc, hs⟩) hd⟩

theorem hyp_upper (S : LatticeSpec K L) {seeds : List Nat} (hv : ∀ s ∈ seeds, s < L.length) :
    Hyp id L.upperAt seeds L.length L.length := by
  have valid : ∀ {x}, R L.upperAt seeds x → ∃ xx, L[x]? = some xx := fun ⟨s, hs, hr⟩ =>
    ⟨_, List.getElem?_eq_getElem (reach_upper_sound S hr (hv s hs)).1⟩
  refine ⟨fun _ _ _ _ h => h, fun x hx d hd => ?_, fun x hx => ?_, fun x hx => ?_⟩ <;>
    obtain ⟨xx, hxx⟩ := valid hx
  · rw [upperAt_get hxx] at hd
    exact (S.upper_gt hxx hd).1
  · exact lt_of_get hxx
  · rw [upperAt_get hxx]
    exact length_le_of_nodup_bound (S.upper_nodup hxx) (fun j hj => (S.upper_gt hxx hj).2)

theorem hyp_lower (S : LatticeSpec K L) {seeds : List Nat} (hv : ∀ s ∈ seeds, s < L.length) :
    Hyp L.dindexAt L.lowerAt seeds L.length L.length := by
  have valid : ∀ {x}, R L.lowerAt seeds x → ∃ xx, L[x]? = some xx := fun ⟨s, hs, hr⟩ =>
    ⟨_, List.getElem?_eq_getElem (reach_lower_sound S hr (hv s hs)).1⟩
  refine ⟨fun x y hx hy h => ?_, fun x hx d hd => ?_, fun x hx => ?_, fun x hx => ?_⟩ <;>
    obtain ⟨xx, hxx⟩ := valid hx
  · obtain ⟨yy, hyy⟩ := valid hy
    rw [dindexAt_get hxx, dindexAt_get hyy] at h
    exact S.dindex_inj hxx hyy h
  · rw [lowerAt_get hxx] at hd
    obtain ⟨dd, hdd, hcv⟩ := S.lower_get hxx hd
    rw [dindexAt_get hxx, dindexAt_get hdd]
    exact S.dindex_lt_of_ssub hdd hxx hcv.2.1 hcv.2.2.1
  · rw [dindexAt_get hxx]
    exact S.dindex_lt hxx
  · rw [lowerAt_get hxx]
    exact length_le_of_nodup_bound (S.lower_nodup hxx)
      (fun j hj => lt_trans (S.lower_lt hxx hj) (lt_of_get hxx))

/-- either direction: `le c d` reads "`d` is beyond `c`" -/
theorem traversal_spec {key : Nat → Nat} {next : Nat → List Nat} {le : Nat → Nat → Prop}
    {seeds cs : List Nat} (hyp : Hyp key next seeds L.length L.length)
    (reach : ∀ s ∈ seeds, ∀ d, Reach next s d ↔ d < L.length ∧ le s d)
    (union : ∀ d, (∃ m ∈ seeds, le m d) ↔ ∃ c ∈ cs, le c d) :
    (iterunion key next (L.travFuel seeds) seeds).Pairwise (fun a b => key a < key b) ∧
    ∀ d, d ∈ iterunion key next (L.travFuel seeds) seeds ↔ d < L.length ∧ ∃ c ∈ cs, le c d := by
  obtain ⟨h1, h2⟩ := iterunion_correct key next _ hyp (L.travFuel seeds) (by unfold Lattice.travFuel; omega)
  refine ⟨h1, fun d => ?_⟩
  rw [h2, ← union]
  constructor
  · rintro ⟨s, hs, hr⟩; exact ⟨((reach s hs d).mp hr).1, s, hs, ((reach s hs d).mp hr).2⟩
  · rintro ⟨hd, s, hs, hle⟩; exact ⟨s, hs, (reach s hs d).mpr ⟨hd, hle⟩⟩

theorem upsetUnion_spec (S : LatticeSpec K L) {cs : List Nat} (hv : ∀ c ∈ cs, c < L.length) :
    (upsetUnion L cs).Pairwise (· < ·) ∧
    ∀ d, d ∈ upsetUnion L cs ↔ d < L.length ∧ ∃ c ∈ cs, L.extentAt c ⊆ᵇ L.extentAt d :=
  have hv' : ∀ s ∈ maximalBy (properlySubsumes L) cs, s < L.length := fun s hs => hv s (maximalBy_sub hs)
  traversal_spec (hyp_upper S hv')
    (fun s hs => reach_upper_iff S (hv' s hs)) (fun _ => minSeeds_union L cs _)

theorem downsetUnion_spec (S : LatticeSpec K L) {cs : List Nat} (hv : ∀ c ∈ cs, c < L.length) :
    (downsetUnion L cs).Pairwise (fun a b => L.dindexAt a < L.dindexAt b) ∧
    ∀ d, d ∈ downsetUnion L cs ↔ d < L.length ∧ ∃ c ∈ cs, L.extentAt d ⊆ᵇ L.extentAt c :=
  have hv' : ∀ s ∈ maximalBy (properlyImplies L) cs, s < L.length := fun s hs => hv s (maximalBy_sub hs)
  traversal_spec (hyp_lower S hv')
    (fun s hs => reach_lower_iff S (hv' s hs)) (fun _ => maxSeeds_union L cs _)

end FCA.C09
