import FCA.Model.Lindig
import FCA.Proofs.Prelude
/-
What the `for n_extent, n_intent in neighbors(...)` body of `lindig.lattice` does to the mapping and to the heap.
The mapping is read as a list of keys `seen` and a record for every key: `recs = seen.map g`; the body then
changes `g` at every key in the same way (`Rec.upd`) and appends the unseen neighbors to `seen` and to the heap.
-/
namespace FCA

theorem recFind_isSome (recs : List Rec) (x : Nat) : (recFind recs x).isSome = true ↔ x ∈ recs.map (·.extent) := by
  unfold recFind
  rw [List.find?_isSome]
  simp only [beq_iff_eq, List.mem_map]

theorem map_extent_map {g : Nat → Rec} (hg : ∀ x, (g x).extent = x) (seen : List Nat) :
    (seen.map g).map (·.extent) = seen := by
  rw [List.map_map]
  exact (List.map_congr_left fun x _ => hg x).trans (List.map_id _)

theorem recFind_map {g : Nat → Rec} (hg : ∀ x, (g x).extent = x) {seen : List Nat} {x : Nat} (hx : x ∈ seen) :
    recFind (seen.map g) x = some (g x) := by
  induction seen with
  | nil => cases hx
  | cons a seen ih =>
    rw [recFind, List.map_cons, List.find?_cons]
    by_cases ha : a = x
    · rw [ha, hg, beq_self_eq_true]
    · rw [hg, beq_false_of_ne ha]
      exact ih ((List.mem_cons.mp hx).resolve_left (Ne.symm ha))

theorem filterMap_recFind_map {g : Nat → Rec} (hg : ∀ x, (g x).extent = x) {seen l : List Nat}
    (hl : ∀ x ∈ l, x ∈ seen) : l.filterMap (recFind (seen.map g)) = l.map g := by
  induction l with
  | nil => rfl
  | cons a l ih =>
    rw [List.filterMap_cons_some (recFind_map hg (hl a List.mem_cons_self)), List.map_cons,
      ih fun x hx => hl x (List.mem_cons_of_mem _ hx)]

theorem exts_appendUpper (recs : List Rec) (e ne : Nat) :
    (appendUpper recs e ne).map (·.extent) = recs.map (·.extent) := by
  unfold appendUpper
  rw [List.map_map]
  exact List.map_congr_left fun r _ => by simp only [Function.comp]; split <;> rfl

/-- update of an existing record when `e` is processed with neighbor extents `ns` -/
def Rec.upd (e : Nat) (ns : List Nat) (r : Rec) : Rec :=
  { r with upper := r.upper ++ (if r.extent = e then ns else []),
           lower := r.lower ++ (if r.extent ∈ ns then [e] else []) }

@[simp] theorem Rec.upd_extent (e : Nat) (ns : List Nat) (r : Rec) : (Rec.upd e ns r).extent = r.extent := rfl
@[simp] theorem Rec.upd_intent (e : Nat) (ns : List Nat) (r : Rec) : (Rec.upd e ns r).intent = r.intent := rfl

theorem Rec.upd_nil (e : Nat) (r : Rec) : Rec.upd e [] r = r := by
  simp [Rec.upd]

theorem Rec.upd_concat (e ne : Nat) (done : List Nat) (hne : ne ∉ done) (r : Rec) :
    Rec.upd e [ne] (Rec.upd e done r) = Rec.upd e (done ++ [ne]) r := by
  obtain ⟨x, i, u, l⟩ := r
  by_cases h1 : x = e <;> by_cases h2 : x = ne
  · subst h1; subst h2; simp [Rec.upd, hne]
  · subst h1; simp [Rec.upd, h2]
  · subst h2; simp [Rec.upd, h1, hne]
  · simp [Rec.upd, h1, h2]

/-- `mapping[extent].upper.append(ne)` then `mapping[ne].lower.append(extent)`, record by record -/
theorem appendLower_appendUpper (recs : List Rec) (e ne : Nat) :
    appendLower (appendUpper recs e ne) ne e = recs.map (Rec.upd e [ne]) := by
  unfold appendLower appendUpper
  rw [List.map_map]
  refine List.map_congr_left fun r _ => ?_
  obtain ⟨x, i, u, l⟩ := r
  by_cases h1 : x = e <;> by_cases h2 : x = ne
  · subst h1; subst h2; simp [Rec.upd]
  · subst h1; simp [Rec.upd, h2]
  · subst h2; simp [Rec.upd, h1]
  · simp [Rec.upd, h1, h2]

theorem appendUpper_eq (recs : List Rec) (e ne : Nat) (hne : ne ∉ recs.map (·.extent)) :
    appendUpper recs e ne = recs.map (Rec.upd e [ne]) := by
  unfold appendUpper
  refine List.map_congr_left fun r hr => ?_
  have h2 : ¬ r.extent = ne := fun h => hne (h ▸ List.mem_map_of_mem hr)
  obtain ⟨x, i, u, l⟩ := r
  by_cases h1 : x = e <;> simp_all [Rec.upd]

/-- `done` are the neighbors handled before `nbs`; `f` has a blank record for every key not yet seen -/
theorem linkNeighbors_map (e : Nat) (f : Nat → Rec) (hf : ∀ x, (f x).extent = x) :
    ∀ (nbs : List (Nat × Nat)) (done seen heap : List Nat), e ∈ seen → (nbs.map Prod.fst).Nodup →
      (∀ p ∈ nbs, p.1 ∉ done) → (∀ p ∈ nbs, p.1 ∉ seen → f p.1 = ⟨p.1, p.2, [], []⟩) →
      linkNeighbors e nbs (seen.map fun x => Rec.upd e done (f x)) heap =
        ((seen ++ (nbs.map Prod.fst).filter fun x => decide (x ∉ seen)).map
            fun x => Rec.upd e (done ++ nbs.map Prod.fst) (f x),
          heap ++ (nbs.map Prod.fst).filter fun x => decide (x ∉ seen)) := by
  intro nbs
  induction nbs with
  | nil => intro done seen heap _ _ _ _; simp [linkNeighbors]
  | cons p rest ih =>
    intro done seen heap he hnd hdone hnew
    obtain ⟨ne, ni⟩ := p
    obtain ⟨hp, hnd⟩ := List.nodup_cons.mp hnd
    have hexts := map_extent_map (g := fun x => Rec.upd e done (f x)) hf seen
    have hdone' : ∀ q ∈ rest, q.1 ∉ done ++ [ne] := fun q hq hm =>
      (List.mem_append.mp hm).elim (hdone q (List.mem_cons_of_mem _ hq))
        fun h => hp (List.mem_map.mpr ⟨q, hq, List.mem_singleton.mp h⟩)
    have hupd : ∀ l : List Nat, (l.map fun x => Rec.upd e done (f x)).map (Rec.upd e [ne]) =
        l.map fun x => Rec.upd e (done ++ [ne]) (f x) := fun l => by
      rw [List.map_map]
      exact List.map_congr_left fun x _ => Rec.upd_concat e ne done (hdone _ List.mem_cons_self) (f x)
    have hc : (recFind (appendUpper (seen.map fun x => Rec.upd e done (f x)) e ne) ne).isSome = true ↔ ne ∈ seen := by
      rw [recFind_isSome, exts_appendUpper, hexts]
    rw [linkNeighbors]
    by_cases hin : ne ∈ seen
    · rw [if_pos (hc.mpr hin), appendLower_appendUpper, hupd,
        ih _ _ _ he hnd hdone' fun q hq => hnew q (List.mem_cons_of_mem _ hq)]
      simp [hin]
    · rw [if_neg (mt hc.mp hin), appendUpper_eq _ _ _ (by rw [hexts]; exact hin), hupd]
      have hrec : Rec.upd e (done ++ [ne]) (f ne) = ⟨ne, ni, [], [e]⟩ := by
        have hne : ¬ ne = e := fun h => hin (h ▸ he)
        rw [hnew _ List.mem_cons_self hin]
        simp [Rec.upd, hne]
      have hfilt : (rest.map Prod.fst).filter (fun x => decide (x ∉ seen ++ [ne])) =
          (rest.map Prod.fst).filter fun x => decide (x ∉ seen) :=
        List.filter_congr fun x hx => by
          have : ¬ x = ne := fun h => hp (h ▸ hx)
          simp [this]
      rw [← hrec, ← List.map_singleton (f := fun x => Rec.upd e (done ++ [ne]) (f x)), ← List.map_append,
        ih _ _ _ (List.mem_append_left _ he) hnd hdone' fun q hq hq' =>
          hnew q (List.mem_cons_of_mem _ hq) fun h => hq' (List.mem_append_left _ h), hfilt]
      simp [hin]

end FCA
