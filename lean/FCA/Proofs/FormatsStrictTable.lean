import FCA.Proofs.FormatsTable
/-
The strict reader of the ASCII-art table (`strictTable`, written from the layout alone) recovers
the triple from `dumpTable`: the cells of a line, their widths, what trimming leaves.
-/
namespace FCA

theorem strictCells_fmtLine {indent : Nat} {wd : List Nat} {cells : List Str}
    (hne : wd.zip cells ≠ []) (hbar : ∀ c ∈ cells, '|' ∉ c) :
    strictCells indent (fmtLine indent wd cells) =
      some ((wd.zip cells).map fun (w, c) => ljust w c) := by
  set padded := (wd.zip cells).map (fun (w, c) => ljust w c) with hpadded
  have hpne : padded ≠ [] := by simpa [hpadded] using hne
  have hpb : ∀ x ∈ padded, '|' ∉ x := by
    intro x hx
    simp only [hpadded, List.mem_map, Prod.exists] at hx
    obtain ⟨w, c, hwc, rfl⟩ := hx
    exact not_mem_ljust (by decide) (hbar c (List.of_mem_zip hwc).2)
  have e : fmtLine indent wd cells = List.replicate indent ' ' ++ (joinWith ['|'] padded ++ ['|']) := by
    simp [fmtLine, hpadded]
  unfold strictCells
  rw [e, List.take_left' (by simp), List.drop_left' (by simp), joinWith_append_sep hpne,
    splitChar_closed hpb]
  simp

theorem le_objWidth {objects : List Str} {o : Str} (h : o ∈ objects) : o.length ≤ objWidth objects :=
  foldl_max_ge (·.length) objects 0 h

theorem rtrimSp_id {s : Str} (h : ∀ c ∈ s.getLast?, c ≠ ' ') : rtrimSp s = s :=
  rstripBy_of_last fun c hc => beq_false_of_ne (h c hc)

theorem rtrimSp_ljust {w : Nat} {s : Str} (h : ∀ c ∈ s.getLast?, c ≠ ' ') : rtrimSp (ljust w s) = s :=
  (rstripBy_append_right (fun _ hc => beq_iff_eq.2 (List.eq_of_mem_replicate hc)) s).trans (rtrimSp_id h)

theorem rtrimSp_replicate (w : Nat) : rtrimSp (List.replicate w ' ') = [] := by
  have := rtrimSp_ljust (w := w) (s := []) (by simp)
  rwa [ljust_nil] at this

theorem strictFlag_sym (w : Nat) (b : Bool) : strictFlag (ljust w (sym b)) = some b := by
  unfold strictFlag
  rw [rtrimSp_ljust (by cases b <;> simp [sym])]
  cases b <;> decide

theorem strictFlag_flagCells {ps : List Str} {row : List Bool} (h : row.length = ps.length) :
    (flagCells ps row).map strictFlag = row.map some := by
  conv_rhs => rw [← List.map_snd_zip (l₁ := ps) (l₂ := row) (by omega)]
  rw [flagCells_eq, List.map_map, List.map_map]
  exact List.map_congr_left fun x _ => by rw [Function.comp_apply, strictFlag_sym]; rfl

theorem length_flagCells {ps : List Str} {row : List Bool} (hp : ∀ p ∈ ps, p ≠ [])
    (h : row.length = ps.length) : (flagCells ps row).map (·.length) = ps.map (·.length) := by
  conv_rhs => rw [← List.map_fst_zip (l₁ := ps) (l₂ := row) (by omega)]
  rw [flagCells_eq, List.map_map, List.map_map]
  refine List.map_congr_left fun x hx => length_ljust ?_
  have := List.length_pos_iff.2 (hp _ (List.of_mem_zip hx).1)
  cases x.2 <;> simp [sym]; omega

theorem strictTable_dumpTable {objects properties : List Str} {bools : List (List Bool)}
    (hr : Rect objects properties bools) (ho : ∀ o ∈ objects, TableLabel o)
    (hp : ∀ p ∈ properties, TableLabel p) (indent : Nat) :
    strictTable indent (dumpTable indent objects properties bools) =
      some (objects, properties, bools) := by
  obtain ⟨hone, hpne, hlen, hrow⟩ := hr
  have hsplit := splitChar_dumpTable (bools := bools) (fun o h => (ho o h).cellLike.nl)
    (fun p h => (hp p h).cellLike.nl) indent
  obtain ⟨xs, rfl, rfl, hzip⟩ := exists_rows hlen
  rw [List.forall_mem_map] at ho hrow
  have hW : ∀ x ∈ xs, x.1.length ≤ objWidth (xs.map (·.1)) := fun x hx =>
    le_objWidth (List.mem_map_of_mem hx)
  set W := objWidth (xs.map (·.1))
  have hpl : ∀ x ∈ properties, x ≠ [] := fun x hx => (hp x hx).1
  have hcells : seqOpt ((splitChar '\n' (dumpTable indent (xs.map (·.1)) properties (xs.map (·.2)))).map
      (strictCells indent)) =
      some ((List.replicate W ' ' :: properties) ::
        xs.map fun x => ljust W x.1 :: flagCells properties x.2) := by
    rw [hsplit, tableLines, hzip, List.map_cons, strictCells_fmtLine (by simp)
      (List.forall_mem_cons.2 ⟨by simp, fun c hc => (hp c hc).cellLike.bar⟩), seqOpt,
      seqOpt_map_map_of (g := fun x => ljust W x.1 :: flagCells properties x.2) fun x hx => ?_]
    · simp only [List.zip_cons_cons, List.map_cons, zip_ljust_self, ljust_nil]; rfl
    · rw [strictCells_fmtLine (by simp) (List.forall_mem_cons.2 ⟨(ho x hx).cellLike.bar,
        List.forall_mem_map.2 fun b _ => not_mem_sym (by decide) b⟩)]
      rfl
  have hwidth : ((xs.map fun x => ljust W x.1 :: flagCells properties x.2).any
      fun r => r.map (·.length) != (List.replicate W ' ' :: properties).map (·.length)) = false := by
    rw [List.any_eq_false]
    simp only [List.forall_mem_map]
    intro x hx
    simp [length_ljust (hW x hx), length_flagCells hpl (hrow x hx)]
  have hprops : properties.map rtrimSp = properties := by
    conv_rhs => rw [← List.map_id properties]
    exact List.map_congr_left fun p hpm => rtrimSp_id (hp p hpm).trimmed.last_ne_space
  have hobjs : ((xs.map fun x => ljust W x.1 :: flagCells properties x.2).map
      fun r => rtrimSp (r.headD [])) = xs.map (·.1) :=
    map_map_of fun x hx => rtrimSp_ljust (ho x hx).trimmed.last_ne_space
  have hflags : seqOpt ((xs.map fun x => ljust W x.1 :: flagCells properties x.2).map
      fun r => seqOpt ((r.drop 1).map strictFlag)) = some (xs.map (·.2)) :=
    seqOpt_map_map_of fun x hx => by
      rw [List.drop_succ_cons, List.drop_zero, strictFlag_flagCells (hrow x hx), seqOpt_map_some]
  have hne1 : (properties.any (·.isEmpty)) = false := by
    rw [List.any_eq_false]; intro p hpm; simpa using hpl p hpm
  have hne2 : ((xs.map (·.1)).any (·.isEmpty)) = false := by
    rw [List.any_eq_false, List.forall_mem_map]; intro x hx; simpa using (ho x hx).1
  have hxe : xs.isEmpty = false := by simpa using hone
  unfold strictTable
  rw [hcells]
  simp only [rtrimSp_replicate, List.isEmpty_eq_false_iff.2 hpne, List.isEmpty_map, hxe, hwidth,
    hprops, hobjs, hflags, hne1, hne2, bne_self_eq_false, Bool.or_self, Bool.false_eq_true, if_false]

end FCA
