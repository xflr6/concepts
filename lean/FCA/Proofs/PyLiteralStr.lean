import FCA.Model.PyLiteral
import FCA.Proofs.Prelude
/-
`repr` of a `str` (`pyReprStr`, CPython's `unicode_repr`) is read back by the string-literal reader
`parseStrLit`, and has no line break, for every string and every printability table.
-/
namespace FCA

theorem litHexVal_hexDigit (m : Nat) : litHexVal (litHexDigit (m % 16)) = some (m % 16) :=
  (by decide +kernel : ∀ d < 16, litHexVal (litHexDigit d) = some d) _ (Nat.mod_lt m (by decide))

/-- the `k + 1` low hex digits of `n` are read onto the accumulator `acc` -/
theorem litStrBody_hex (q : Char) (k acc n : Nat) (r : Str) :
    litStrBody q (.hex k acc) (litHex (k + 1) n ++ r) =
      (litChar? (acc * 16 ^ (k + 1) + n % 16 ^ (k + 1))).bind fun ch =>
        litConsFst ch (litStrBody q .normal r) := by
  induction k generalizing acc with
  | zero =>
    simp only [litHex, List.cons_append, List.nil_append, litStrBody, litHexVal_hexDigit]
    rw [Nat.pow_zero, Nat.div_one, Nat.zero_add, Nat.pow_one, Nat.mul_comm 16 acc]
    cases litChar? (acc * 16 + n % 16) <;> rfl
  | succ k ih =>
    rw [litHex, List.cons_append, litStrBody]
    simp only [litHexVal_hexDigit]
    rw [ih, show (16 * acc + n / 16 ^ (k + 1) % 16) * 16 ^ (k + 1) + n % 16 ^ (k + 1) =
        acc * 16 ^ (k + 1 + 1) + n % 16 ^ (k + 1 + 1) by
      rw [Nat.mod_pow_succ (b := 16) (k := k + 1)]
      ring]

theorem litChar?_toNat (c : Char) : litChar? c.toNat = some c := by
  simp [litChar?, Char.ofNat_toNat]

theorem litStrBody_hex_char (q : Char) {k : Nat} {c : Char} (h : c.toNat < 16 ^ (k + 1)) (r : Str) :
    litStrBody q (.hex k 0) (litHex (k + 1) c.toNat ++ r) = litConsFst c (litStrBody q .normal r) := by
  rw [litStrBody_hex, Nat.zero_mul, Nat.zero_add, Nat.mod_eq_of_lt h, litChar?_toNat]
  rfl

theorem litStrBody_bs {q : Char} (hq : q = '\'' ∨ q = '"') (r : Str) :
    litStrBody q .normal ('\\' :: r) = litStrBody q .esc r := by
  rcases hq with rfl | rfl <;> simp [litStrBody]

theorem litStrBody_plain (q c : Char) (r : Str) (h1 : c ≠ q) (h2 : c ≠ '\\') (h3 : c ≠ '\n')
    (h4 : c ≠ '\r') :
    litStrBody q .normal (c :: r) = litConsFst c (litStrBody q .normal r) := by
  simp [litStrBody, h1, h2, h3, h4]

/-- The spellings of the code point `c` inside a string literal with the quote `q` among which
`unicode_repr` chooses; the reader understands each of them. -/
inductive LitEsc (q : Char) : Char → Str → Prop
  | plain {c} : c ≠ q → c ≠ '\\' → c ≠ '\n' → c ≠ '\r' → LitEsc q c [c]
  | quote {c} : c = '\'' ∨ c = '"' ∨ c = '\\' → LitEsc q c ['\\', c]
  | tab : LitEsc q '\t' ['\\', 't']
  | nl : LitEsc q '\n' ['\\', 'n']
  | cr : LitEsc q '\r' ['\\', 'r']
  | hex {c} (l : Char) (k : Nat) : (l, k) ∈ [('x', 1), ('u', 3), ('U', 7)] → c.toNat < 16 ^ (k + 1) →
      LitEsc q c ('\\' :: l :: litHex (k + 1) c.toNat)

theorem litStrBody_esc_hex (q : Char) {l : Char} {k : Nat}
    (hl : (l, k) ∈ [('x', 1), ('u', 3), ('U', 7)]) (s : Str) :
    litStrBody q .esc (l :: s) = litStrBody q (.hex k 0) s := by
  simp only [List.mem_cons, Prod.mk.injEq, List.not_mem_nil, or_false] at hl
  rcases hl with ⟨rfl, rfl⟩ | ⟨rfl, rfl⟩ | ⟨rfl, rfl⟩ <;> rfl

theorem litStrBody_litEsc {q c : Char} {e : Str} (hq : q = '\'' ∨ q = '"') (h : LitEsc q c e) (r : Str) :
    litStrBody q .normal (e ++ r) = litConsFst c (litStrBody q .normal r) := by
  cases h with
  | plain h1 h2 h3 h4 => exact litStrBody_plain q c r h1 h2 h3 h4
  | quote h =>
    rw [List.cons_append, litStrBody_bs hq]
    rcases h with rfl | rfl | rfl <;> rfl
  | hex l k hl hc =>
    rw [List.cons_append, litStrBody_bs hq, List.cons_append, litStrBody_esc_hex q hl,
      litStrBody_hex_char q hc]
  | _ => rw [List.cons_append, litStrBody_bs hq]; rfl

theorem pyEscChar_litEsc (p : Nat → Bool) {q : Char} (hq : q = '\'' ∨ q = '"') (c : Char) :
    LitEsc q c (pyEscChar p q c) := by
  have hU : c.toNat < 16 ^ (7 + 1) := by
    have := c.valid
    simp only [UInt32.isValidChar, Nat.isValidChar] at this
    show c.val.toNat < _
    omega
  unfold pyEscChar
  -- `split` is very slow on this body (it compares every condition with every hypothesis)
  refine iteInduction (fun h => .quote ?_) fun h1 => iteInduction (fun h => ?_) fun _ =>
    iteInduction (fun h => ?_) fun h3 => iteInduction (fun h => ?_) fun h4 => ?_
  · simp only [Bool.or_eq_true, beq_iff_eq] at h
    rcases h with rfl | rfl
    · exact hq.elim .inl fun h => .inr (.inl h)
    · exact .inr (.inr rfl)
  · rw [beq_iff_eq.mp h]; exact .tab
  · rw [beq_iff_eq.mp h]; exact .nl
  · rw [beq_iff_eq.mp h]; exact .cr
  simp only [Bool.or_eq_true, beq_iff_eq, not_or, decide_eq_true_eq] at h1 h3 h4 ⊢
  have hplain : LitEsc q c [c] := .plain h1.1 h1.2 h3 h4
  exact iteInduction (fun h => .hex 'x' 1 (by decide) (by omega)) fun _ =>
    iteInduction (fun _ => hplain) fun _ => iteInduction (fun _ => hplain) fun _ =>
    iteInduction (fun h => .hex 'x' 1 (by decide) (by omega)) fun _ =>
    iteInduction (fun h => .hex 'u' 3 (by decide) (by omega)) fun _ => .hex 'U' 7 (by decide) hU

theorem nl_not_mem_litHex (k n : Nat) : '\n' ∉ litHex k n := by
  induction k with
  | zero => simp [litHex]
  | succ k ih =>
    rw [litHex, List.mem_cons, not_or]
    refine ⟨fun e => ?_, ih⟩
    -- a hex digit has a value, `'\n'` has none
    have := litHexVal_hexDigit (n / 16 ^ k)
    rw [← e] at this
    cases this

theorem nl_not_mem_litEsc {q c : Char} {e : Str} (h : LitEsc q c e) : '\n' ∉ e := by
  cases h with
  | plain _ _ h _ => simpa using h.symm
  | quote h => rcases h with rfl | rfl | rfl <;> decide
  | hex l k hl _ =>
    simp only [List.mem_cons, Prod.mk.injEq, List.not_mem_nil, or_false] at hl
    rcases hl with ⟨rfl, rfl⟩ | ⟨rfl, rfl⟩ | ⟨rfl, rfl⟩ <;> simp [nl_not_mem_litHex]
  | _ => decide

theorem pyQuote_cases (s : Str) : pyQuote s = '\'' ∨ pyQuote s = '"' := by
  unfold pyQuote
  split
  · exact Or.inr rfl
  · exact Or.inl rfl

theorem litStrBody_escape {q : Char} (hq : q = '\'' ∨ q = '"') {esc : Char → Str}
    (hesc : ∀ c, LitEsc q c (esc c)) (s r : Str) :
    litStrBody q .normal (s.flatMap esc ++ q :: r) = some (s, r) := by
  induction s with
  | nil => simp [litStrBody]
  | cons c s ih =>
    rw [List.flatMap_cons, List.append_assoc, litStrBody_litEsc hq (hesc c), ih]
    rfl

theorem parseStrLit_repr (printable : Nat → Bool) (s r : Str) :
    parseStrLit (pyReprStr printable s ++ r) = some (s, r) := by
  have hq := pyQuote_cases s
  unfold pyReprStr
  rw [List.cons_append, parseStrLit]
  have : (pyQuote s == '\'' || pyQuote s == '"') = true := by
    rcases hq with h | h <;> rw [h] <;> rfl
  rw [if_pos this, List.append_assoc, List.singleton_append,
    litStrBody_escape hq (pyEscChar_litEsc printable hq)]

theorem nl_not_mem_reprStr (p : Nat → Bool) (s : Str) : '\n' ∉ pyReprStr p s := by
  have hq := pyQuote_cases s
  have hq' : '\n' ≠ pyQuote s := by rcases hq with h | h <;> rw [h] <;> decide
  unfold pyReprStr
  simp only [List.mem_cons, List.mem_append, List.mem_flatMap, List.not_mem_nil, or_false, not_or,
    not_exists, not_and]
  exact ⟨hq', fun c _ => nl_not_mem_litEsc (pyEscChar_litEsc p hq c), hq'⟩

theorem pyReprStr_head (printable : Nat → Bool) (s : Str) :
    ∃ t, pyReprStr printable s = pyQuote s :: t := ⟨_, rfl⟩

end FCA
