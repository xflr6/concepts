import FCA.Proofs.Defn
/-
`Definition.transposed` turns every mutator call into the call of its twin on the other axis (`step_transposed`), so a
fact about a property-axis mutator is the fact about its object-axis twin read in the transposed definition.
-/
namespace FCA

/-! ### reading a transposed definition -/

@[simp] theorem transposed_objs (d : Defn) : d.transposed.objs = d.props := rfl
@[simp] theorem transposed_props (d : Defn) : d.transposed.props = d.objs := rfl
theorem transposed_pairs (d : Defn) : d.transposed.pairs = d.pairs.map Prod.swap := rfl

@[simp] theorem mem_transposed {d : Defn} {a b : Name} : (a, b) ∈ d.transposed.pairs ↔ (b, a) ∈ d.pairs :=
  List.mem_map_of_injective Prod.swap_injective (a := (b, a))

theorem contains_map_swap (ps : List Cell) (q : Cell) : (ps.map Prod.swap).contains q = ps.contains q.swap :=
  contains_eq_of_iff (List.mem_map_of_injective Prod.swap_injective (a := q.swap))

@[simp] theorem transposed_pairs_inj {d e : Defn} : d.transposed.pairs = e.transposed.pairs ↔ d.pairs = e.pairs :=
  (List.map_injective_iff.mpr Prod.swap_injective).eq_iff

@[simp] theorem transposed_transposed (d : Defn) : d.transposed.transposed = d := by
  simp [Defn.transposed, Function.comp_def]

@[simp] theorem getItem_transposed (d : Defn) (a b : Name) : d.transposed.getItem a b = d.getItem b a := by
  simp only [Defn.getItem, transposed_objs, transposed_props, transposed_pairs, contains_map_swap, Prod.swap,
    Bool.and_comm]

theorem conflict_transposed {d e : Defn} : Conflict d.transposed e.transposed ↔ Conflict d e :=
  ⟨fun ⟨o, p, h1, h2, h3, h4, h5⟩ => ⟨p, o, h3, h4, h1, h2, by simpa using h5⟩,
   fun ⟨o, p, h1, h2, h3, h4, h5⟩ => ⟨p, o, h3, h4, h1, h2, by simpa using h5⟩⟩

theorem conflictGuard_transposed (d e : Defn) (ig : Bool) :
    (!ig && !(conflicts d.transposed e.transposed).isEmpty) = (!ig && !(conflicts d e).isEmpty) := by
  rw [Bool.eq_iff_iff, conflictGuard_iff, conflictGuard_iff, conflict_transposed]

/-! ### the twin of a call -/

/-- a `Definition` operand is transposed with the receiver -/
def Op.swap : Op → Op
  | .setItem o p v => .setItem p o v
  | .renameObject old new => .renameProperty old new
  | .renameProperty old new => .renameObject old new
  | .moveObject o i => .moveProperty o i
  | .moveProperty p i => .moveObject p i
  | .addObject o ps => .addProperty o ps
  | .addProperty p os => .addObject p os
  | .removeObject o => .removeProperty o
  | .removeProperty p => .removeObject p
  | .removeEmptyObjects => .removeEmptyProperties
  | .removeEmptyProperties => .removeEmptyObjects
  | .setObject o ps => .setProperty o ps
  | .setProperty p os => .setObject p os
  | .unionUpdate other ig => .unionUpdate other.transposed ig
  | .intersectionUpdate other ig => .intersectionUpdate other.transposed ig

@[elab_as_elim] theorem Op.axisRec {P : Op → Prop}
    (setItem : ∀ o p v, P (.setItem o p v))
    (renameObject : ∀ old new, P (.renameObject old new))
    (moveObject : ∀ o i, P (.moveObject o i))
    (addObject : ∀ o ps, P (.addObject o ps))
    (removeObject : ∀ o, P (.removeObject o))
    (removeEmptyObjects : P .removeEmptyObjects)
    (setObject : ∀ o ps, P (.setObject o ps))
    (unionUpdate : ∀ other ig, P (.unionUpdate other ig))
    (intersectionUpdate : ∀ other ig, P (.intersectionUpdate other ig))
    (swap : ∀ op, P op → P op.swap) : ∀ op, P op
  | .setItem o p v => setItem o p v
  | .renameObject old new => renameObject old new
  | .renameProperty old new => swap _ (renameObject old new)
  | .moveObject o i => moveObject o i
  | .moveProperty p i => swap _ (moveObject p i)
  | .addObject o ps => addObject o ps
  | .addProperty p os => swap _ (addObject p os)
  | .removeObject o => removeObject o
  | .removeProperty p => swap _ (removeObject p)
  | .removeEmptyObjects => removeEmptyObjects
  | .removeEmptyProperties => swap _ removeEmptyObjects
  | .setObject o ps => setObject o ps
  | .setProperty p os => swap _ (setObject p os)
  | .unionUpdate other ig => unionUpdate other ig
  | .intersectionUpdate other ig => intersectionUpdate other ig

theorem Op.swap_swap (op : Op) : op.swap.swap = op := by
  cases op <;> simp [Op.swap]

/-! ### the primitives on the cell list commute with swapping the components -/

theorem pAdd_map_swap (ps : List Cell) (q : Cell) : pAdd (ps.map Prod.swap) q.swap = (pAdd ps q).map Prod.swap := by
  simp only [pAdd, contains_map_swap, Prod.swap_swap]
  split <;> simp

/-- `List.filter_map` with the composition unfolded, so that `contains_map_swap` rewrites under it -/
theorem filter_map_swap (ps : List Cell) (f : Cell → Bool) :
    (ps.map Prod.swap).filter f = (ps.filter fun q => f q.swap).map Prod.swap := List.filter_map

theorem pDiscard_map_swap (ps : List Cell) (q : Cell) :
    pDiscard (ps.map Prod.swap) q.swap = (pDiscard ps q).map Prod.swap := by
  simp only [pDiscard, filter_map_swap]
  congr 2
  funext x
  rw [Bool.eq_iff_iff]
  simp [Prod.swap_inj]

theorem map_map_swap (ps : List Cell) (g g' : Cell → Cell) (h : ∀ q, g' q.swap = (g q).swap) :
    (ps.map Prod.swap).map g' = (ps.map g).map Prod.swap := by
  simp only [List.map_map, Function.comp_def, h]

/-! ### every call commutes with transposition -/

theorem step_transposed (d : Defn) (op : Op) :
    d.transposed.step op.swap = (d.step op).map fun x => (x.1.transposed, x.2) := by
  induction op using Op.axisRec generalizing d with
  | setItem o p v =>
    cases v
    · exact congrArg (fun c => Except.ok (Defn.mk _ _ c, [])) (pDiscard_map_swap d.pairs (o, p))
    · exact congrArg (fun c => Except.ok (Defn.mk _ _ c, [])) (pAdd_map_swap d.pairs (o, p))
  | renameObject old new =>
    simp only [Op.swap, Defn.step, Defn.transposed, bind, Except.bind]
    cases uReplace d.objs old new with
    | error e => rfl
    | ok l =>
      refine congrArg (fun c => Except.ok (Defn.mk _ _ c, [])) (map_map_swap d.pairs _ _ ?_)
      rintro ⟨a, b⟩
      by_cases h : a = old <;> simp [h]
  | moveObject o i =>
    simp only [Op.swap, Defn.step, Defn.transposed, bind, Except.bind]
    cases uMove d.objs o i <;> rfl
  | addObject o ps =>
    exact congrArg (fun c => Except.ok (Defn.mk _ _ c, []))
      (List.foldl_hom (List.map Prod.swap) fun acc p => pAdd_map_swap acc (o, p))
  | removeObject o =>
    simp only [Op.swap, Defn.step]
    by_cases h : d.objs.contains o = true
    · rw [if_pos h, if_pos (id h : d.transposed.props.contains o = true)]
      exact congrArg (fun c => Except.ok (Defn.mk _ _ c, [])) (filter_map_swap d.pairs _)
    · rw [if_neg h, if_neg (id h : ¬d.transposed.props.contains o = true)]; rfl
  | removeEmptyObjects =>
    simp only [Op.swap, Defn.step, Defn.transposed, List.any_map, Function.comp_def, Except.map]
  | setObject o ps =>
    refine congrArg (fun c => Except.ok (Defn.mk _ _ c, [])) (List.foldl_hom (List.map Prod.swap) fun acc p => ?_)
    split
    · exact pAdd_map_swap acc (o, p)
    · exact pDiscard_map_swap acc (o, p)
  | unionUpdate other ig =>
    simp only [Op.swap, Defn.step, conflictGuard_transposed]
    split
    · rfl
    · refine congrArg (fun c => Except.ok (Defn.mk _ _ c, [])) ?_
      rw [transposed_pairs, transposed_pairs, List.foldl_map]
      exact List.foldl_hom (List.map Prod.swap) fun acc q => pAdd_map_swap acc q
  | intersectionUpdate other ig =>
    simp only [Op.swap, Defn.step, conflictGuard_transposed]
    split
    · rfl
    · refine congrArg (fun c => Except.ok (Defn.mk _ _ c, [])) ((filter_map_swap d.pairs _).trans ?_)
      simp only [transposed_pairs, contains_map_swap, Prod.swap_swap]
      rfl
  | swap op ih =>
    -- the statement for `op` at `d.transposed`, transposed once more
    have := ih d.transposed
    rw [transposed_transposed] at this
    rw [Op.swap_swap, this]
    cases d.transposed.step op <;> simp [Except.map]

theorem step_swap (d : Defn) (op : Op) :
    d.step op.swap = (d.transposed.step op).map fun x => (x.1.transposed, x.2) := by
  rw [← step_transposed, transposed_transposed]

theorem step_swap_ok {d d' : Defn} {op : Op} {r : List Name} (hs : d.step op.swap = .ok (d', r)) :
    d.transposed.step op = .ok (d'.transposed, r) := by
  rw [step_swap] at hs
  cases h : d.transposed.step op with
  | error e => rw [h] at hs; cases hs
  | ok x => rw [h] at hs; cases hs; simp

end FCA
