import Lean.Meta.Tactic.Simp.RegisterCommand
/-- Normal forms of the predicate kernels of `lattice_members.py` (C08): the kernels themselves, to be unfolded,
the mask equations they are written with, each read as the statement about extents it stands for, and the Boolean
connectives read as propositional ones. -/
register_simp_attr pred_norm
