import FCA.Proofs.Bits
import FCA.Proofs.OrderSpec
/- `membersW` is the filtered range; `lexLt`, the tie-break of the two documented orders, is a strict total order. -/
namespace FCA

/-- the recursion of `membersAux` keeps the mask shifted by the offset -/
theorem membersAux_shiftRight (s w off : Nat) :
    membersAux w off (s >>> off) = (List.range' off w).filter (fun i => s.testBit i) := by
  induction w generalizing off with
  | zero => rfl
  | succ w ih =>
    rw [membersAux, ← Nat.shiftRight_succ, ih, List.range'_succ, List.filter_cons]
    simp [Nat.testBit_eq_decide_div_mod_eq, Nat.shiftRight_eq_div_pow]

theorem membersW_eq (w s : Nat) : membersW w s = (List.range w).filter (fun i => s.testBit i) := by
  rw [membersW, List.range_eq_range', ← membersAux_shiftRight]; rfl

theorem mem_membersW {w s x : Nat} : x ∈ membersW w s ↔ x < w ∧ x ∈ᵇ s := by
  rw [membersW_eq]; simp [mem]

theorem mem_membersW_of_bounded {w s x : Nat} (h : Bounded w s) : x ∈ membersW w s ↔ x ∈ᵇ s :=
  mem_membersW.trans (and_iff_right_of_imp (h x))

theorem membersW_sorted (w s : Nat) : (membersW w s).Pairwise (· < ·) := by
  rw [membersW_eq]; exact List.Pairwise.filter _ List.pairwise_lt_range

theorem membersW_nodup (w s : Nat) : (membersW w s).Nodup :=
  (membersW_sorted w s).imp (fun h => Nat.ne_of_lt h)

theorem membersW_sublist {w a b : Nat} (h : a ⊆ᵇ b) : (membersW w a).Sublist (membersW w b) := by
  rw [membersW_eq, membersW_eq]; exact List.monotone_filter_right _ h

theorem mem_ofMembers {l : List Nat} {i : Nat} : i ∈ᵇ ofMembers l ↔ i ∈ l := by
  simpa [ofMembers] using
    mem_foldl_of_step (P := fun k i => i = k) (fun _ _ _ => mem_or.trans (or_congr_right mem_pow)) l 0 i

theorem ofMembers_congr {l l' : List Nat} (h : ∀ x, x ∈ l ↔ x ∈ l') : ofMembers l = ofMembers l' :=
  ext fun i => by rw [mem_ofMembers, mem_ofMembers, h]

theorem ofMembers_cons (a : Nat) (l : List Nat) : ofMembers (a :: l) = 2 ^ a ||| ofMembers l :=
  ext fun i => by simp only [mem_ofMembers, mem_or, mem_pow, List.mem_cons]

theorem ofMembers_membersW {w s : Nat} (h : Bounded w s) : ofMembers (membersW w s) = s :=
  ext fun i => by rw [mem_ofMembers, mem_membersW_of_bounded h]

theorem card_le_width (w s : Nat) : card w s ≤ w := by
  rw [card, membersW_eq]; exact (List.length_filter_le _ _).trans List.length_range.le

theorem card_le_of_sub {w a b : Nat} (h : a ⊆ᵇ b) : card w a ≤ card w b :=
  (membersW_sublist h).length_le

theorem card_lt_of_ssub {w a b : Nat} (h : a ⊆ᵇ b) (hb : Bounded w b) (hne : a ≠ b) : card w a < card w b := by
  refine lt_of_le_of_ne (card_le_of_sub h) fun he => hne ?_
  rw [← ofMembers_membersW (bounded_sub h hb), ← ofMembers_membersW hb, (membersW_sublist h).eq_of_length he]

theorem card_eq_length {w x : Nat} {S : List Nat} (hnd : S.Nodup) (hlt : ∀ i ∈ S, i < w)
    (hmem : ∀ i, i ∈ᵇ x ↔ i ∈ S) : card w x = S.length := by
  refine List.Perm.length_eq ((List.perm_ext_iff_of_nodup (membersW_nodup w x) hnd).mpr fun i => ?_)
  rw [mem_membersW, hmem]
  exact ⟨fun h => h.2, fun h => ⟨hlt i h, h⟩⟩

theorem card_ofMembers {w : Nat} {S : List Nat} (hnd : S.Nodup) (hlt : ∀ i ∈ S, i < w) :
    card w (ofMembers S) = S.length :=
  card_eq_length hnd hlt fun _ => mem_ofMembers

theorem card_zero (w : Nat) : card w 0 = 0 :=
  card_eq_length (S := []) List.nodup_nil (by simp) (by simp)

/-! ### the documented orders -/

/-- the tie-break of both orders: the first position where `a` and `b` differ belongs to `a` -/
def lexLt (a b : Nat) : Prop := ∃ i, i ∈ᵇ a ∧ ¬ i ∈ᵇ b ∧ ∀ k, k < i → (k ∈ᵇ a ↔ k ∈ᵇ b)

theorem shortlexLt_iff {w a b : Nat} :
    shortlexLt w a b ↔ card w a < card w b ∨ (card w a = card w b ∧ lexLt a b) := Iff.rfl

theorem longlexLt_iff {w a b : Nat} :
    longlexLt w a b ↔ card w b < card w a ∨ (card w a = card w b ∧ lexLt a b) := Iff.rfl

theorem lexLt_asymm {a b : Nat} : lexLt a b → ¬ lexLt b a := by
  rintro ⟨i, hi1, hi2, hi3⟩ ⟨j, hj1, hj2, hj3⟩
  rcases Nat.lt_trichotomy i j with hij | rfl | hij
  · exact hi2 ((hj3 i hij).mpr hi1)
  · exact hi2 hj1
  · exact hj2 ((hi3 j hij).mpr hj1)

/-- different masks have a least position where they differ -/
theorem lexLt_total {a b : Nat} (hne : a ≠ b) : lexLt a b ∨ lexLt b a := by
  have hex : ∃ i, ¬ (i ∈ᵇ a ↔ i ∈ᵇ b) := by
    by_contra hcon
    push Not at hcon
    exact hne (ext hcon)
  have hlow : ∀ k, k < Nat.find hex → (k ∈ᵇ a ↔ k ∈ᵇ b) := fun k hk => not_not.mp (Nat.find_min hex hk)
  have hi := Nat.find_spec hex
  by_cases hia : Nat.find hex ∈ᵇ a
  · exact Or.inl ⟨_, hia, fun hib => hi ⟨fun _ => hib, fun _ => hia⟩, hlow⟩
  · exact Or.inr ⟨_, by_contra fun hib => hi ⟨fun h => absurd h hia, fun h => absurd h hib⟩, hia,
      fun k hk => (hlow k hk).symm⟩

theorem shortlexLt_asymm {w a b : Nat} (h : shortlexLt w a b) : ¬ shortlexLt w b a := by
  rintro (h' | ⟨he', hl'⟩) <;> rcases h with h | ⟨he, hl⟩
  · exact lt_asymm h h'
  · exact h'.ne' he
  · exact h.ne' he'
  · exact lexLt_asymm hl hl'

theorem shortlexLt_irrefl (w a : Nat) : ¬ shortlexLt w a a := fun h => shortlexLt_asymm h h

theorem nodup_of_pairwise_shortlexLt {w : Nat} {l : List Nat} (h : l.Pairwise (shortlexLt w)) : l.Nodup :=
  h.imp fun {a b} hab (e : a = b) => shortlexLt_irrefl w a (by rwa [← e] at hab)

end FCA
