import FCA.Proofs.Defn
namespace FCA

/-! ### the cells of `take` and of `inverted` -/

theorem mem_subtable {d : Defn} {obj prop : List Name} {o p : Name} :
    (o, p) ∈ obj.flatMap (fun o => prop.filterMap fun p =>
        if d.pairs.contains (o, p) then some (o, p) else none) ↔
      o ∈ obj ∧ p ∈ prop ∧ (o, p) ∈ d.pairs := by
  rw [mem_comprehension, List.contains_iff_mem]

/-- `inverted` writes the condition of its comprehension the other way round -/
theorem inverted_pairs (d : Defn) :
    d.inverted.pairs = d.objs.flatMap fun o => d.props.filterMap fun p =>
      if !d.pairs.contains (o, p) then some (o, p) else none :=
  List.flatMap_congr fun o _ => List.filterMap_congr fun p _ => by cases d.pairs.contains (o, p) <;> rfl

theorem mem_inverted {d : Defn} {o p : Name} :
    (o, p) ∈ d.inverted.pairs ↔ o ∈ d.objs ∧ p ∈ d.props ∧ (o, p) ∉ d.pairs := by
  rw [inverted_pairs, mem_comprehension, Bool.not_eq_true', ← Bool.not_eq_true, List.contains_iff_mem]

/-! ### `take` -/

theorem take_guard_iff {d : Defn} {os ps : List Name} :
    ((!os.isEmpty && !os.all d.objs.contains) || (!ps.isEmpty && !ps.all d.props.contains)) = true ↔
      (∃ x ∈ os, x ∉ d.objs) ∨ (∃ x ∈ ps, x ∉ d.props) := by
  have key : ∀ (l xs : List Name), (!xs.isEmpty && !xs.all l.contains) = true ↔ ∃ x ∈ xs, x ∉ l := by
    intro l xs
    cases xs with
    | nil => simp
    | cons y ys =>
      simp only [List.isEmpty_cons, Bool.not_false, Bool.true_and, Bool.not_eq_true',
        List.all_eq_false, List.contains_iff_mem]
  rw [Bool.or_eq_true, key, key]

/-- the names carried by the `KeyError` of `take` -/
theorem take_notfound_eq (d : Defn) (os ps : List Name) :
    uIor (uRsub d.objs os) (uRsub d.props ps) =
      uniq (os.filter (fun x => !d.objs.contains x)) ++
      (uniq (ps.filter (fun x => !d.props.contains x))).filter
        (fun x => !(uniq (os.filter (fun x => !d.objs.contains x))).contains x) := by
  rw [uIor_eq, uRsub, uRsub]
  congr 1
  exact (uniq_filter _ _).trans (by rw [uniq_of_nodup (nodup_uniq _)])

def takeNames (l : List Name) (req : Option (List Name)) (reorder : Bool) : List Name :=
  match req with
  | none => l
  | some xs => if reorder then uniq xs else l.filter xs.contains

theorem take_eq (d : Defn) (objects properties : Option (List Name)) (reorder : Bool) :
    d.take objects properties reorder =
      if ((!(objects.getD []).isEmpty && !(objects.getD []).all d.objs.contains) ||
          (!(properties.getD []).isEmpty && !(properties.getD []).all d.props.contains)) = true then
        .error (.keyError, uIor (uRsub d.objs (objects.getD [])) (uRsub d.props (properties.getD [])))
      else
        .ok ⟨takeNames d.objs objects reorder, takeNames d.props properties reorder,
          (takeNames d.objs objects reorder).flatMap fun o =>
            (takeNames d.props properties reorder).filterMap fun p =>
              if d.pairs.contains (o, p) then some (o, p) else none⟩ := by
  cases objects <;> cases properties <;> cases reorder <;> rfl

theorem takeNames_subset {l : List Name} {req : Option (List Name)} {reorder : Bool}
    (hg : ∀ x ∈ req.getD [], x ∈ l) : ∀ x ∈ takeNames l req reorder, x ∈ l := by
  intro x hx
  cases req with
  | none => exact hx
  | some xs =>
    cases reorder
    · exact (List.mem_filter.mp hx).1
    · exact hg x (mem_uniq.mp hx)

theorem nodup_takeNames {l : List Name} (h : l.Nodup) (req : Option (List Name)) (reorder : Bool) :
    (takeNames l req reorder).Nodup := by
  cases req with
  | none => exact h
  | some xs =>
    cases reorder
    · exact h.filter _
    · exact nodup_uniq _

theorem take_ok {d t : Defn} {objects properties : Option (List Name)} {reorder : Bool}
    (h : d.take objects properties reorder = .ok t) :
    ((∀ x ∈ objects.getD [], x ∈ d.objs) ∧ ∀ x ∈ properties.getD [], x ∈ d.props) ∧
    t = ⟨takeNames d.objs objects reorder, takeNames d.props properties reorder,
      (takeNames d.objs objects reorder).flatMap fun o =>
        (takeNames d.props properties reorder).filterMap fun p =>
          if d.pairs.contains (o, p) then some (o, p) else none⟩ := by
  obtain ⟨hg, rfl⟩ := ite_error_eq_ok_iff.mp (take_eq d objects properties reorder ▸ h)
  rw [take_guard_iff] at hg
  push Not at hg
  exact ⟨hg, rfl⟩

end FCA
