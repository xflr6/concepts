import FCA.Model.Lattice
import FCA.Proofs.Members
/- `bitsets.combos.shortlex` (a breadth-first queue of unions) enumerates the subsets level by level, level `k` listing
the `k`-subsets in lexicographic order; `outs k cur atoms` is the closed form of one level. -/
namespace FCA

/-- unions of `cur` with `k` of the atoms, lexicographically (earlier atoms first) -/
def outs : Nat → Nat → List Nat → List Nat
  | 0, cur, _ => [cur]
  | _+1, _, [] => []
  | k+1, cur, a :: rest => outs k (cur ||| a) rest ++ outs (k+1) cur rest

@[simp] theorem outs_zero (c : Nat) (l : List Nat) : outs 0 c l = [c] := by
  cases l <;> rfl
@[simp] theorem outs_succ_nil (k c : Nat) : outs (k+1) c [] = [] := rfl
theorem outs_succ_cons (k c a : Nat) (rest : List Nat) :
    outs (k+1) c (a :: rest) = outs k (c ||| a) rest ++ outs (k+1) c rest := rfl

/-- entries appended to the queue while processing one queue entry -/
def slQs (e : Nat × List Nat) : List (Nat × List Nat) := (shortlexQueue.inner e.1 e.2).2

@[simp] theorem slQs_nil (c : Nat) : slQs (c, []) = [] := by simp [slQs, shortlexQueue.inner]
theorem slQs_cons (c a : Nat) (rest : List Nat) :
    slQs (c, a :: rest) = if rest.isEmpty then slQs (c, rest) else (c ||| a, rest) :: slQs (c, rest) := by
  simp [slQs, shortlexQueue.inner]

theorem inner_fst (c : Nat) (l : List Nat) : (shortlexQueue.inner c l).1 = outs 1 c l := by
  induction l with
  | nil => rfl
  | cons a rest ih => rw [outs_succ_cons, outs_zero, ← ih]; rfl

@[simp] theorem shortlexQueue_nil (fuel : Nat) : shortlexQueue fuel [] = [] := by
  cases fuel <;> simp [shortlexQueue]

theorem shortlexQueue_cons (fuel : Nat) (e : Nat × List Nat) (Q : List (Nat × List Nat)) :
    shortlexQueue (fuel + 1) (e :: Q) = outs 1 e.1 e.2 ++ shortlexQueue fuel (Q ++ slQs e) := by
  rw [shortlexQueue, ← inner_fst]
  rfl

/-- processing a whole prefix `Q` of the queue: its yields, then the rest followed by its children -/
theorem shortlexQueue_level (Q R : List (Nat × List Nat)) (fuel : Nat) :
    shortlexQueue (fuel + Q.length) (Q ++ R) =
      Q.flatMap (fun e => outs 1 e.1 e.2) ++ shortlexQueue fuel (R ++ Q.flatMap slQs) := by
  induction Q generalizing R with
  | nil => simp
  | cons e Q ih =>
    rw [List.length_cons, ← Nat.add_assoc, List.cons_append, shortlexQueue_cons,
      List.append_assoc, ih]
    simp [List.append_assoc]

/-! ### fuel -/

/-- number of queue pops an entry can cause (itself and all its descendants), upper bound -/
def qCost (Q : List (Nat × List Nat)) : Nat := (Q.map (fun e => 2 ^ e.2.length)).sum

@[simp] theorem qCost_nil : qCost [] = 0 := rfl
@[simp] theorem qCost_cons (e : Nat × List Nat) (Q : List (Nat × List Nat)) :
    qCost (e :: Q) = 2 ^ e.2.length + qCost Q := by simp [qCost]
@[simp] theorem qCost_append (Q R : List (Nat × List Nat)) : qCost (Q ++ R) = qCost Q + qCost R := by
  simp [qCost]

theorem qCost_slQs (e : Nat × List Nat) : qCost (slQs e) + 1 ≤ 2 ^ e.2.length := by
  obtain ⟨c, l⟩ := e
  show qCost (slQs (c, l)) + 1 ≤ 2 ^ l.length
  induction l with
  | nil => simp
  | cons a rest ih =>
    rw [slQs_cons]
    -- an entry with `n + 1` atoms: at most one child with `n` atoms, and the children of the entry with `n`
    split
    · rw [List.length_cons, pow_succ]
      exact le_trans ih (Nat.le_mul_of_pos_right _ Nat.two_pos)
    · rw [qCost_cons, List.length_cons, pow_succ, Nat.mul_two, Nat.add_assoc]
      exact Nat.add_le_add_left ih _

theorem qCost_flatMap (Q : List (Nat × List Nat)) : qCost (Q.flatMap slQs) + Q.length ≤ qCost Q := by
  induction Q with
  | nil => simp
  | cons e Q ih =>
    have := Nat.add_le_add (qCost_slQs e) ih
    rw [List.flatMap_cons, qCost_append, qCost_cons, List.length_cons]
    omega

theorem slQs_length_lt (e : Nat × List Nat) : ∀ e' ∈ slQs e, e'.2.length < e.2.length := by
  obtain ⟨c, l⟩ := e
  induction l with
  | nil => simp
  | cons a rest ih =>
    intro e' he
    rw [slQs_cons] at he
    have hr : ∀ e' ∈ slQs (c, rest), e'.2.length < (a :: rest).length :=
      fun e' h => Nat.lt_succ_of_lt (ih e' h)
    split at he
    · exact hr e' he
    · rcases List.mem_cons.mp he with rfl | he
      · exact Nat.lt_succ_self _
      · exact hr e' he

/-- level `k + 2` of an entry is level `k + 1` of its children -/
theorem flatMap_slQs_outs (k : Nat) (e : Nat × List Nat) :
    (slQs e).flatMap (fun e' => outs (k+1) e'.1 e'.2) = outs (k+2) e.1 e.2 := by
  obtain ⟨c, l⟩ := e
  induction l with
  | nil => simp
  | cons a rest ih =>
    rw [slQs_cons, outs_succ_cons]
    split
    · next h => obtain rfl : rest = [] := List.isEmpty_iff.mp h; simp
    · rw [List.flatMap_cons, ih]

theorem shortlexQueue_step {fuel : Nat} {Q : List (Nat × List Nat)} (hf : qCost Q ≤ fuel) :
    shortlexQueue fuel Q =
      Q.flatMap (fun e => outs 1 e.1 e.2) ++ shortlexQueue (fuel - Q.length) (Q.flatMap slQs) := by
  have hQ : Q.length ≤ fuel := le_trans (Nat.le_add_left _ _) (le_trans (qCost_flatMap Q) hf)
  obtain ⟨f', rfl⟩ := Nat.exists_eq_add_of_le' hQ
  have h := shortlexQueue_level Q [] f'
  rw [List.append_nil, List.nil_append] at h
  rw [h, Nat.add_sub_cancel]

theorem shortlexQueue_eq (D : Nat) : ∀ (fuel : Nat) (Q : List (Nat × List Nat)),
    (∀ e ∈ Q, e.2.length ≤ D) → qCost Q ≤ fuel →
    shortlexQueue fuel Q =
      (List.range D).flatMap (fun d => Q.flatMap (fun e => outs (d+1) e.1 e.2)) := by
  induction D with
  | zero =>
    intro fuel Q hD hf
    have hnil : ∀ e ∈ Q, e.2 = [] := fun e he => List.length_eq_zero_iff.mp (Nat.le_zero.mp (hD e he))
    rw [shortlexQueue_step hf, List.flatMap_eq_nil_iff.mpr fun e he => by rw [hnil e he]; rfl,
      List.flatMap_eq_nil_iff.mpr fun e he => by rw [← Prod.mk.eta (p := e), hnil e he]; exact slQs_nil _]
    simp
  | succ D ih =>
    intro fuel Q hD hf
    have hlen : qCost (Q.flatMap slQs) ≤ fuel - Q.length :=
      Nat.le_sub_of_add_le (le_trans (qCost_flatMap Q) hf)
    rw [shortlexQueue_step hf, ih _ (Q.flatMap slQs) ?_ hlen, List.range_succ_eq_map,
      List.flatMap_cons, List.flatMap_map]
    · congr 1
      refine List.flatMap_congr fun d _ => ?_
      rw [List.flatMap_assoc]
      exact List.flatMap_congr fun e _ => flatMap_slQs_outs d e
    · intro e' he'
      obtain ⟨e, he, he'⟩ := List.mem_flatMap.mp he'
      exact Nat.le_of_lt_succ (Nat.lt_of_lt_of_le (slQs_length_lt e e' he') (hD e he))

/-! ### what a level contains -/

theorem mem_outs_zero {c x : Nat} {l idx : List Nat} :
    x ∈ outs 0 c l ↔ ∃ S : List Nat, S.Sublist idx ∧ S.length = 0 ∧ x = c ||| ofMembers S := by
  rw [outs_zero, List.mem_singleton]
  refine ⟨fun e => ⟨[], List.nil_sublist _, rfl, e.trans (Nat.or_zero c).symm⟩, fun ⟨S, _, hl, e⟩ => ?_⟩
  rw [List.length_eq_zero_iff.mp hl] at e
  exact e.trans (Nat.or_zero c)

theorem mem_outs_idx {k c x : Nat} {idx : List Nat} :
    x ∈ outs k c (idx.map (2 ^ ·)) ↔ ∃ S : List Nat, S.Sublist idx ∧ S.length = k ∧ x = c ||| ofMembers S := by
  induction idx generalizing k c with
  | nil =>
    cases k with
    | zero => exact mem_outs_zero
    | succ k => simp
  | cons a rest ih =>
    cases k with
    | zero => exact mem_outs_zero
    | succ k =>
      rw [List.map_cons, outs_succ_cons, List.mem_append, ih, ih]
      constructor
      · rintro (⟨S, hs, hl, rfl⟩ | ⟨S, hs, hl, rfl⟩)
        · exact ⟨a :: S, hs.cons_cons a, by rw [List.length_cons, hl], by rw [ofMembers_cons, Nat.or_assoc]⟩
        · exact ⟨S, hs.cons a, hl, rfl⟩
      · rintro ⟨S, hs, hl, rfl⟩
        rcases List.sublist_cons_iff.mp hs with hs | ⟨r, rfl, hr⟩
        · exact Or.inr ⟨S, hs, hl, rfl⟩
        · exact Or.inl ⟨r, hr, Nat.succ_injective hl, by rw [ofMembers_cons, Nat.or_assoc]⟩

/-- those that take the first atom `a` come before those that do not, and both agree with `c` below `a` -/
theorem outs_pairwise (idx : List Nat) : ∀ (k c : Nat), idx.Pairwise (· < ·) → (∀ i ∈ idx, ¬ i ∈ᵇ c) →
    (outs k c (idx.map (2 ^ ·))).Pairwise lexLt := by
  induction idx with
  | nil => intro k c _ _; cases k <;> simp
  | cons a rest ih =>
    intro k c hp hc
    cases k with
    | zero => simp
    | succ k =>
      obtain ⟨ha, hp⟩ := List.pairwise_cons.mp hp
      have hac : ¬ a ∈ᵇ c := hc a List.mem_cons_self
      have hrest : ∀ i ∈ rest, ¬ i ∈ᵇ c := fun i hi => hc i (List.mem_cons_of_mem a hi)
      have hS : ∀ {S : List Nat}, S.Sublist rest → ∀ j, j ≤ a → j ∉ S :=
        fun hs j hj hm => absurd (ha j (hs.subset hm)) (Nat.not_lt.mpr hj)
      rw [List.map_cons, outs_succ_cons, List.pairwise_append]
      refine ⟨ih _ _ hp fun i hi => ?_, ih _ _ hp hrest, fun x hx y hy => ?_⟩
      · rw [mem_or, mem_pow]
        exact not_or.mpr ⟨hrest i hi, (ha i hi).ne'⟩
      · obtain ⟨S1, hs1, _, rfl⟩ := mem_outs_idx.mp hx
        obtain ⟨S2, hs2, _, rfl⟩ := mem_outs_idx.mp hy
        refine ⟨a, by simp, by simp [mem_ofMembers, hac, hS hs2 a le_rfl], fun j hj => ?_⟩
        simp [mem_ofMembers, hS hs1 j hj.le, hS hs2 j hj.le, hj.ne]

theorem sub_card_of_mem_outs {w s k x : Nat} (hx : x ∈ outs k 0 ((membersW w s).map (2 ^ ·))) :
    x ⊆ᵇ s ∧ card w x = k := by
  obtain ⟨S, hs, rfl, rfl⟩ := mem_outs_idx.mp hx
  rw [Nat.zero_or]
  exact ⟨fun i hi => (mem_membersW.mp (hs.subset (mem_ofMembers.mp hi))).2,
    card_ofMembers (hs.nodup (membersW_nodup w s)) fun i hi => (mem_membersW.mp (hs.subset hi)).1⟩

theorem powersetShortlex_head (w intent : Nat) : (powersetShortlex w intent).head? = some 0 := rfl

end FCA
