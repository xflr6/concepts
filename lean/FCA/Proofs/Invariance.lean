import FCA.Proofs.Galois
import Mathlib.Data.Finset.Card
import Mathlib.Data.Finset.Prod
/-
The notions in which C15 is stated: the order notions on the concepts of a context and how they are carried
along an order correspondence, images of masks under a permutation, the finite set of all concepts.
-/
namespace FCA

/-! Concepts are ordered by inclusion of extents (`Concept.__le__`: `self._extent & other._extent == self._extent`). -/

/-- `(A₁,B₁)` is a lower neighbor of `(A₂,B₂)`: strictly below with no concept strictly between. (On concept pairs, for
C15; the lattice object is specified with `covers K G D` of `Proofs/Neighbors.lean`, the same relation on closed extents.) -/
def Covers (K : Ctx) (A₁ B₁ A₂ B₂ : Nat) : Prop :=
  isConcept K A₁ B₁ ∧ isConcept K A₂ B₂ ∧ A₁ ⊆ᵇ A₂ ∧ A₁ ≠ A₂ ∧
    ∀ A B, isConcept K A B → A₁ ⊆ᵇ A → A ⊆ᵇ A₂ → A = A₁ ∨ A = A₂

/-- `(A,B)` is the least upper bound of `(A₁,B₁)` and `(A₂,B₂)` -/
def IsJoin (K : Ctx) (A₁ B₁ A₂ B₂ A B : Nat) : Prop :=
  isConcept K A₁ B₁ ∧ isConcept K A₂ B₂ ∧ isConcept K A B ∧ A₁ ⊆ᵇ A ∧ A₂ ⊆ᵇ A ∧
    ∀ X Y, isConcept K X Y → A₁ ⊆ᵇ X → A₂ ⊆ᵇ X → A ⊆ᵇ X

/-- `(A,B)` is the greatest lower bound of `(A₁,B₁)` and `(A₂,B₂)` -/
def IsMeet (K : Ctx) (A₁ B₁ A₂ B₂ A B : Nat) : Prop :=
  isConcept K A₁ B₁ ∧ isConcept K A₂ B₂ ∧ isConcept K A B ∧ A ⊆ᵇ A₁ ∧ A ⊆ᵇ A₂ ∧
    ∀ X Y, isConcept K X Y → X ⊆ᵇ A₁ → X ⊆ᵇ A₂ → X ⊆ᵇ A

/-! The three notions are notions of a family `S` of pairs ordered through their first components by `le`: by
unfolding, `Covers` is `CoversOn (isConcept K) (· ⊆ᵇ ·)` between two concepts, `IsJoin` is `LubOn` for `⊆ᵇ` and
`IsMeet` is `LubOn` for `⊇`. So they are carried along any correspondence `φ` of the first components that is
onto, one-to-one and turns `le` into `le'`. Relabelling is one (`φ` = image under the row permutation),
transposition another (`φ` relates the extent of a concept to its intent, and `⊆ᵇ` to `⊇`). -/

def CoversOn (S : Nat → Nat → Prop) (le : Nat → Nat → Prop) (a b : Nat) : Prop :=
  le a b ∧ a ≠ b ∧ ∀ x y, S x y → le a x → le x b → x = a ∨ x = b

def LubOn (S : Nat → Nat → Prop) (le : Nat → Nat → Prop) (a b c : Nat) : Prop :=
  le a c ∧ le b c ∧ ∀ x y, S x y → le a x → le b x → le c x

theorem CoversOn.flip {S : Nat → Nat → Prop} {le : Nat → Nat → Prop} {a b : Nat}
    (h : CoversOn S (fun a b => le b a) a b) : CoversOn S le b a :=
  ⟨h.1, h.2.1.symm, fun x y hs h1 h2 => (h.2.2 x y hs h2 h1).symm⟩

structure OrdCorr (S S' : Nat → Nat → Prop) (le le' : Nat → Nat → Prop) (φ : Nat → Nat → Prop) : Prop where
  le_iff : ∀ {a a' b b'}, φ a a' → φ b b' → (le a b ↔ le' a' b')
  inj : ∀ {a b a'}, φ a a' → φ b a' → a = b
  unique : ∀ {a a' a''}, φ a a' → φ a a'' → a' = a''
  surj : ∀ {x' y'}, S' x' y' → ∃ x y, S x y ∧ φ x x'

namespace OrdCorr
variable {S S' : Nat → Nat → Prop} {le le' : Nat → Nat → Prop} {φ : Nat → Nat → Prop}
  (c : OrdCorr S S' le le' φ) {a a' b b' d d' : Nat}
include c

theorem flip : OrdCorr S S' (fun a b => le b a) (fun a b => le' b a) φ :=
  ⟨fun ha hb => c.le_iff hb ha, c.inj, c.unique, c.surj⟩

theorem covers (ha : φ a a') (hb : φ b b') (h : CoversOn S le a b) : CoversOn S' le' a' b' := by
  refine ⟨(c.le_iff ha hb).mp h.1, fun e => h.2.1 (c.inj ha (e ▸ hb)), fun x' y' hs h1 h2 => ?_⟩
  obtain ⟨x, y, hxy, hx⟩ := c.surj hs
  exact (h.2.2 x y hxy ((c.le_iff ha hx).mpr h1) ((c.le_iff hx hb).mpr h2)).imp
    (fun e : x = a => c.unique hx (e ▸ ha)) (fun e : x = b => c.unique hx (e ▸ hb))

theorem lub (ha : φ a a') (hb : φ b b') (hd : φ d d') (h : LubOn S le a b d) : LubOn S' le' a' b' d' := by
  refine ⟨(c.le_iff ha hd).mp h.1, (c.le_iff hb hd).mp h.2.1, fun x' y' hs h1 h2 => ?_⟩
  obtain ⟨x, y, hxy, hx⟩ := c.surj hs
  exact (c.le_iff hd hx).mp (h.2.2 x y hxy ((c.le_iff ha hx).mpr h1) ((c.le_iff hb hx).mpr h2))

end OrdCorr

/-- `σ` is a bijection of `[0,n)` with inverse `σi` -/
def PermOn (σ σi : Nat → Nat) (n : Nat) : Prop :=
  ∀ i, i < n → σ i < n ∧ σi i < n ∧ σi (σ i) = i ∧ σ (σi i) = i

instance (σ σi : Nat → Nat) (n : Nat) : Decidable (PermOn σ σi n) := by
  unfold PermOn; infer_instance

instance (k a : Nat) : Decidable (Bounded k a) := decidable_of_iff _ bounded_iff_lt.symm

namespace PermOn
variable {σ σi : Nat → Nat} {n i : Nat} (h : PermOn σ σi n) (hi : i < n)
include h hi

theorem lt : σ i < n := (h i hi).1
theorem inv_lt : σi i < n := (h i hi).2.1
theorem inv_apply : σi (σ i) = i := (h i hi).2.2.1
theorem apply_inv : σ (σi i) = i := (h i hi).2.2.2

end PermOn

theorem PermOn.symm {σ σi : Nat → Nat} {n : Nat} (h : PermOn σ σi n) : PermOn σi σ n :=
  fun _ hi => ⟨h.inv_lt hi, h.lt hi, h.apply_inv hi, h.inv_apply hi⟩

/-- `a'` is the image of the mask `a ⊆ [0,n)` under `σ` -/
def Image (σ : Nat → Nat) (n a a' : Nat) : Prop :=
  Bounded n a ∧ Bounded n a' ∧ ∀ i, i < n → (σ i ∈ᵇ a' ↔ i ∈ᵇ a)

instance (σ : Nat → Nat) (n a a' : Nat) : Decidable (Image σ n a a') := by
  unfold Image; infer_instance

namespace Image
variable {σ σi : Nat → Nat} {n a a' : Nat}

theorem bounded (h : Image σ n a a') : Bounded n a := h.1
theorem bounded' (h : Image σ n a a') : Bounded n a' := h.2.1
theorem mem_iff (h : Image σ n a a') {i : Nat} (hi : i < n) : σ i ∈ᵇ a' ↔ i ∈ᵇ a := h.2.2 i hi

theorem symm (hp : PermOn σ σi n) (h : Image σ n a a') : Image σi n a' a :=
  ⟨h.bounded', h.bounded, fun i hi => by rw [← h.mem_iff (hp.inv_lt hi), hp.apply_inv hi]⟩

theorem sub_of_sub {a₁ a₁' a₂ a₂' : Nat} (h1 : Image σ n a₁ a₁') (h2 : Image σ n a₂ a₂') (hs : a₁' ⊆ᵇ a₂') :
    a₁ ⊆ᵇ a₂ :=
  fun i hi => (h2.mem_iff (h1.bounded i hi)).mp (hs _ ((h1.mem_iff (h1.bounded i hi)).mpr hi))

theorem sub_iff {a₁ a₁' a₂ a₂' : Nat} (hp : PermOn σ σi n) (h1 : Image σ n a₁ a₁') (h2 : Image σ n a₂ a₂') :
    a₁ ⊆ᵇ a₂ ↔ a₁' ⊆ᵇ a₂' :=
  ⟨sub_of_sub (h1.symm hp) (h2.symm hp), sub_of_sub h1 h2⟩

theorem and {b b' : Nat} (h1 : Image σ n a a') (h2 : Image σ n b b') : Image σ n (a &&& b) (a' &&& b') :=
  ⟨fun i hi => h1.bounded i (mem_and.mp hi).1, fun i hi => h1.bounded' i (mem_and.mp hi).1,
    fun i hi => by rw [mem_and, mem_and, h1.mem_iff hi, h2.mem_iff hi]⟩

theorem or {b b' : Nat} (h1 : Image σ n a a') (h2 : Image σ n b b') : Image σ n (a ||| b) (a' ||| b') :=
  ⟨bounded_or h1.bounded h2.bounded, bounded_or h1.bounded' h2.bounded',
    fun i hi => by rw [mem_or, mem_or, h1.mem_iff hi, h2.mem_iff hi]⟩

end Image

theorem Image.unique {σ σi : Nat → Nat} {n a a' a'' : Nat} (hp : PermOn σ σi n)
    (h1 : Image σ n a a') (h2 : Image σ n a a'') : a' = a'' :=
  sub_antisymm ((Image.sub_iff hp h1 h2).mp (sub_refl a)) ((Image.sub_iff hp h2 h1).mp (sub_refl a))

theorem Image.andNot {σ σi : Nat → Nat} {n a a' b b' : Nat} (_hp : PermOn σ σi n)
    (h1 : Image σ n a a') (h2 : Image σ n b b') : Image σ n (andNot a b) (andNot a' b') :=
  ⟨fun i hi => h1.bounded i (mem_andNot.mp hi).1, fun i hi => h1.bounded' i (mem_andNot.mp hi).1,
    fun i hi => by rw [mem_andNot, mem_andNot, h1.mem_iff hi, h2.mem_iff hi]⟩

theorem image_full {σ σi : Nat → Nat} {n : Nat} (hp : PermOn σ σi n) : Image σ n (full n) (full n) :=
  ⟨bounded_full n, bounded_full n, fun i hi => by
    rw [mem_full, mem_full]; exact ⟨fun _ => hi, fun _ => hp.lt hi⟩⟩

theorem image_zero {σ : Nat → Nat} {n : Nat} : Image σ n 0 0 :=
  ⟨bounded_zero n, bounded_zero n, fun _ _ => iff_of_false not_mem_zero not_mem_zero⟩

theorem Image.eq_iff {σ σi : Nat → Nat} {n a a' b b' : Nat} (hp : PermOn σ σi n)
    (h1 : Image σ n a a') (h2 : Image σ n b b') : a = b ↔ a' = b' := by
  rw [sub_antisymm_iff, sub_antisymm_iff, Image.sub_iff hp h1 h2, Image.sub_iff hp h2 h1]

/-- the image mask, computed: `{σ i | i ∈ a, i < n}` -/
def mapMask (σ : Nat → Nat) (n a : Nat) : Nat :=
  (List.range n).foldl (fun acc i => if a.testBit i then acc ||| 2 ^ σ i else acc) 0

theorem mem_mapMask {σ : Nat → Nat} {n a k : Nat} :
    k ∈ᵇ mapMask σ n a ↔ ∃ i, i < n ∧ i ∈ᵇ a ∧ σ i = k := by
  unfold mapMask
  rw [mem_foldl_of_step (P := fun i k => a.testBit i = true ∧ σ i = k)
    (fun acc i k => by split <;> simp [*, eq_comm])]
  simp only [mem, Nat.zero_testBit, Bool.false_eq_true, false_or, List.mem_range]

theorem image_mapMask {σ σi : Nat → Nat} {n a : Nat} (hp : PermOn σ σi n) (ha : Bounded n a) :
    Image σ n a (mapMask σ n a) := by
  refine ⟨ha, fun k hk => ?_, fun i hi => ?_⟩
  · obtain ⟨i, hi, _, rfl⟩ := mem_mapMask.mp hk
    exact hp.lt hi
  · rw [mem_mapMask]
    refine ⟨fun ⟨i', hi', ha', he⟩ => ?_, fun h => ⟨i, hi, h, rfl⟩⟩
    rwa [← hp.inv_apply hi, ← he, hp.inv_apply hi']

theorem mapMask_inv {σ σi : Nat → Nat} {n a : Nat} (hp : PermOn σ σi n) (ha : Bounded n a) :
    mapMask σi n (mapMask σ n a) = a :=
  have i1 := image_mapMask hp ha
  (Image.unique hp.symm (i1.symm hp) (image_mapMask hp.symm i1.bounded')).symm

open Classical in
noncomputable def conceptSet (K : Ctx) : Finset (Nat × Nat) :=
  ((Finset.range (2 ^ K.n)) ×ˢ (Finset.range (2 ^ K.m))).filter fun p => isConcept K p.1 p.2

theorem mem_conceptSet {K : Ctx} {p : Nat × Nat} : p ∈ conceptSet K ↔ isConcept K p.1 p.2 := by
  unfold conceptSet
  simp only [Finset.mem_filter, Finset.mem_product, Finset.mem_range]
  constructor
  · exact fun h => h.2
  · intro h
    exact ⟨⟨bounded_iff_lt.mp h.1, bounded_iff_lt.mp h.2.1⟩, h⟩

theorem conceptSet_card_eq {K K' : Ctx} (f g : Nat × Nat → Nat × Nat)
    (hf : ∀ A B, isConcept K A B → isConcept K' (f (A, B)).1 (f (A, B)).2)
    (hg : ∀ A B, isConcept K' A B → isConcept K (g (A, B)).1 (g (A, B)).2)
    (hgf : ∀ A B, isConcept K A B → g (f (A, B)) = (A, B))
    (hfg : ∀ A B, isConcept K' A B → f (g (A, B)) = (A, B)) :
    (conceptSet K').card = (conceptSet K).card :=
  Finset.card_nbij' g f (fun p hp => mem_conceptSet.mpr (hg p.1 p.2 (mem_conceptSet.mp hp)))
    (fun p hp => mem_conceptSet.mpr (hf p.1 p.2 (mem_conceptSet.mp hp)))
    (fun p hp => hfg p.1 p.2 (mem_conceptSet.mp hp)) (fun p hp => hgf p.1 p.2 (mem_conceptSet.mp hp))

/-- the concepts are counted by their extents -/
theorem conceptSet_card_eq_of_extents {K K' : Ctx}
    (h : ∀ A, (∃ B, isConcept K A B) ↔ ∃ B', isConcept K' A B') : (conceptSet K').card = (conceptSet K).card :=
  conceptSet_card_eq (fun p => (p.1, K'.intentOf p.1)) (fun p => (p.1, K.intentOf p.1))
    (fun A B hc => let ⟨_, h'⟩ := (h A).mp ⟨B, hc⟩; h'.2.2.1 ▸ h')
    (fun A B hc => let ⟨_, h'⟩ := (h A).mpr ⟨B, hc⟩; h'.2.2.1 ▸ h')
    (fun _ _ hc => Prod.ext rfl hc.2.2.1) (fun _ _ hc => Prod.ext rfl hc.2.2.1)

end FCA
