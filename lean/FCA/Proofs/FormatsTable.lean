import FCA.Proofs.FormatsTableAny
/-
The text of `Table.dumps`: its lines, and that the library's writer is one of the writers of
`FormatsTableAny` (cells padded on the right to the column width, `X` marks, no noise), which
gives the round trip of the ASCII-art table format.
-/
namespace FCA

def sym (b : Bool) : Str := if b then ['X'] else []

/-- one formatted table line: `indent + '|'.join('%-*s' % (w, c)) + '|'` -/
def fmtLine (indent : Nat) (wd : List Nat) (cells : List Str) : Str :=
  List.replicate indent ' ' ++ joinWith ['|'] ((wd.zip cells).map fun (w, c) => ljust w c) ++ ['|']

def flagCells (properties : List Str) (row : List Bool) : List Str :=
  ((properties.map (·.length)).zip (row.map sym)).map fun (w, c) => ljust w c

def objWidth (objects : List Str) : Nat := objects.foldl (fun m o => max m o.length) 0

def tableLines (indent : Nat) (objects properties : List Str) (bools : List (List Bool)) : List Str :=
  fmtLine indent (objWidth objects :: properties.map (·.length)) ([] :: properties) ::
    (objects.zip bools).map fun x =>
      fmtLine indent (objWidth objects :: properties.map (·.length)) (x.1 :: x.2.map sym)

theorem not_mem_fmtLine {ch : Char} (hsp : ch ≠ ' ') (hbar : ch ≠ '|') {indent : Nat}
    {wd : List Nat} {cells : List Str} (h : ∀ c ∈ cells, ch ∉ c) :
    ch ∉ fmtLine indent wd cells := by
  unfold fmtLine
  simp only [List.mem_append, List.mem_replicate, List.mem_singleton, not_or]
  refine ⟨⟨by tauto, ?_⟩, hbar⟩
  apply not_mem_joinWith (by simpa using hbar)
  intro x hx
  simp only [List.mem_map, Prod.exists] at hx
  obtain ⟨w, c, hwc, rfl⟩ := hx
  exact not_mem_ljust hsp (h c (List.of_mem_zip hwc).2)

theorem not_mem_sym {ch : Char} (hx : ch ≠ 'X') (b : Bool) : ch ∉ sym b := by
  cases b <;> simp [sym, hx]

/-- the final `rstrip()` removes the last line break only: every line ends with `|` -/
theorem dumpTable_lines (indent : Nat) (objects properties : List Str) (bools : List (List Bool)) :
    dumpTable indent objects properties bools =
      joinWith ['\n'] (tableLines indent objects properties bools) := by
  refine rstrip_unlines (getLast?_joinWith fun l hl => ?_)
  obtain ⟨wd, cells, rfl⟩ : ∃ wd cells, l = fmtLine indent wd cells := by
    rcases List.mem_cons.1 hl with rfl | hl
    · exact ⟨_, _, rfl⟩
    · obtain ⟨x, _, rfl⟩ := List.mem_map.1 hl; exact ⟨_, _, rfl⟩
  refine ⟨by simp [fmtLine], fun c hc => ?_⟩
  rw [fmtLine, List.getLast?_append_of_ne_nil _ (by simp)] at hc
  cases hc; decide

theorem splitChar_dumpTable {objects properties : List Str} {bools : List (List Bool)}
    (ho : ∀ o ∈ objects, '\n' ∉ o) (hp : ∀ p ∈ properties, '\n' ∉ p) (indent : Nat) :
    splitChar '\n' (dumpTable indent objects properties bools) =
      tableLines indent objects properties bools := by
  rw [dumpTable_lines]
  refine splitChar_joinWith (List.cons_ne_nil _ _) fun l hl => ?_
  rcases List.mem_cons.1 hl with rfl | hl
  · exact not_mem_fmtLine (by decide) (by decide) (List.forall_mem_cons.2 ⟨by simp, hp⟩)
  · obtain ⟨x, hx, rfl⟩ := List.mem_map.1 hl
    exact not_mem_fmtLine (by decide) (by decide) (List.forall_mem_cons.2
      ⟨ho _ (List.of_mem_zip hx).1, List.forall_mem_map.2 fun b _ => not_mem_sym (by decide) b⟩)

theorem flagCells_eq (ps : List Str) (row : List Bool) :
    flagCells ps row = (ps.zip row).map fun x => ljust x.1.length (sym x.2) := by
  rw [flagCells, List.zip_map, List.map_map]; rfl

theorem flagCells_ne_nil {ps : List Str} {row : List Bool} (hp : ps ≠ [])
    (h : row.length = ps.length) : flagCells ps row ≠ [] := by
  rw [flagCells_eq, Ne, List.map_eq_nil_iff, List.zip_eq_nil_iff]
  exact fun e => e.elim hp fun e => hp (List.eq_nil_of_length_eq_zero (by rw [← h, e]; rfl))

/-- the layout choices of `Table.dumps`: no padding on the left; on the right up to the width of
the column (the longest object, the property); `X` marks; nothing else -/
def libStyle (indent : Nat) (objects properties : List Str) : TableStyle where
  indent := fun _ => indent
  pads := fun k j => (0, match k, j with
    | 0, 0 => objWidth objects
    | 0, _ + 1 => 0
    | i + 1, 0 => objWidth objects - (objects.getD i []).length
    -- the mark `X` takes one column (a blank cell is `l + r + 1` blanks wide)
    | _ + 1, j + 1 => (properties.getD j []).length - 1)
  mark := fun _ _ => ['X']
  trailer := fun _ => ([], none)
  noise := fun _ => []

theorem libStyle_ok (indent : Nat) (objects properties : List Str) :
    (libStyle indent objects properties).Ok :=
  ⟨fun _ _ => by change TableLabel ['X']; decide, fun _ => by change NoiseOk ([], none); decide,
    fun _ _ h => by cases h⟩

theorem contentLine_plain (indent : Nat) (cells : List Str) :
    contentLine indent cells ([], none) = List.replicate indent ' ' ++ joinWith ['|'] cells ++ ['|'] := by
  simp [contentLine, noiseLine, blanks]

theorem flagCellW_ljust {n : Nat} (hn : 0 < n) (b : Bool) :
    flagCellW (0, n - 1) ['X'] b = ljust n (sym b) := by
  cases b
  · change List.replicate (0 + (n - 1) + 1) ' ' = [] ++ List.replicate (n - 0) ' '
    rw [Nat.zero_add, Nat.sub_add_cancel hn]; rfl
  · rfl

theorem flagCellsW_lib (indent : Nat) (objects : List Str) (i : Nat) {properties : List Str}
    (hp : ∀ p ∈ properties, p ≠ []) {row : List Bool} (h : row.length = properties.length) :
    flagCellsW (libStyle indent objects properties) i row = flagCells properties row := by
  apply List.ext_getElem
  · simp [flagCellsW, flagCells, h]
  · intro j h1 h2
    have hj : j < properties.length := by simpa [flagCellsW, h] using h1
    simp only [flagCellsW, flagCells, libStyle, List.getElem_map, List.getElem_zipIdx, List.getElem_zip,
      Nat.zero_add, List.getD_eq_getElem?_getD, List.getElem?_eq_getElem hj, Option.getD_some]
    exact flagCellW_ljust (List.length_pos_iff.2 (hp _ (List.getElem_mem hj))) _

theorem headerLineW_lib (indent : Nat) (objects properties : List Str) :
    headerLineW (libStyle indent objects properties) properties =
      fmtLine indent (objWidth objects :: properties.map (·.length)) ([] :: properties) := by
  have : headerCellsW (libStyle indent objects properties) properties = properties := by
    -- the header cells have no padding: `[] ++ a ++ []`
    rw [headerCellsW, zipIdx_map_eq (g := id) properties (fun a _ _ => List.append_nil a), List.map_id]
  rw [headerLineW, this, fmtLine, List.zip_cons_cons, List.map_cons, zip_ljust_self]
  change contentLine indent (blanks (0 + objWidth objects) :: properties) ([], none) =
    _ ++ joinWith ['|'] (ljust (objWidth objects) [] :: properties) ++ _
  rw [contentLine_plain, Nat.zero_add, ljust_nil]; rfl

theorem rowLineW_lib (indent : Nat) {objects properties : List Str}
    (hp : ∀ p ∈ properties, p ≠ []) {i : Nat} {o : Str} (ho : objects[i]? = some o) {row : List Bool}
    (h : row.length = properties.length) :
    rowLineW (libStyle indent objects properties) i o row =
      fmtLine indent (objWidth objects :: properties.map (·.length)) (o :: row.map sym) := by
  rw [rowLineW, flagCellsW_lib indent objects i hp h]
  change contentLine indent (padCell (0, objWidth objects - (objects.getD i []).length) o ::
    flagCells properties row) ([], none) = _
  rw [contentLine_plain, List.getD_eq_getElem?_getD, ho]; rfl

theorem tableLinesW_lib (indent : Nat) {objects properties : List Str} {bools : List (List Bool)}
    (hp : ∀ p ∈ properties, p ≠ []) (hrow : ∀ r ∈ bools, r.length = properties.length) :
    tableLinesW (libStyle indent objects properties) objects properties bools =
      tableLines indent objects properties bools := by
  have hR : ∀ x ∈ (objects.zip bools).zipIdx,
      rowLineW (libStyle indent objects properties) x.2 x.1.1 x.1.2 =
        fmtLine indent (objWidth objects :: properties.map (·.length)) (x.1.1 :: x.1.2.map sym) := by
    intro x hx
    obtain ⟨ho, hr⟩ := List.getElem?_zip_eq_some.1 (List.mem_zipIdx_iff_getElem?.1 hx)
    exact rowLineW_lib indent hp ho (hrow _ (List.mem_of_getElem? hr))
  rw [tableLinesW, headerLineW_lib]
  change [] ++ [_] ++ List.flatMap (fun x => [] ++ [_]) _ ++ [] = _
  simp only [List.nil_append, List.append_nil, List.singleton_append, ← List.map_eq_flatMap]
  rw [List.map_congr_left hR]
  exact congrArg _ (zipIdx_map_eq _ (fun _ _ _ => rfl) 0)

/-- the flag cells (the wiki export writes them too) are those of `libStyle`; indent, objects and
line number do not enter them, so any values do -/
theorem flagCells_like {ps : List Str} {row : List Bool} (hp : ∀ p ∈ ps, p ≠ [])
    (h : row.length = ps.length) : ∀ c ∈ flagCells ps row, CellLike c := by
  rw [← flagCellsW_lib 0 [] 0 hp h]
  exact flagCellsW_like _ (libStyle_ok ..) 0 row

theorem decode_flagCells {ps : List Str} {row : List Bool} (hp : ∀ p ∈ ps, p ≠ [])
    (h : row.length = ps.length) : (flagCells ps row).map (fun f => !(strip f).isEmpty) = row := by
  rw [← flagCellsW_lib 0 [] 0 hp h]
  exact flagCellsW_decode _ (libStyle_ok ..) 0 row

end FCA
