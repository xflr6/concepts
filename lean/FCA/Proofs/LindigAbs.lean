import FCA.Proofs.ListAux
/-
The heap loop of `lindig.lattice` reduced to what determines the emission order: the heap of
extents, the keys of the mapping (`seen`) and the emitted order, over an abstract neighbor function.
-/
namespace FCA

namespace LindigAbs

def lloop (nb : Nat → List Nat) (key : Nat → Nat) : Nat → List Nat → List Nat → List Nat → List Nat
  | 0, _, _, order => order.reverse
  | fuel+1, heap, seen, order =>
    match minBy key heap with
    | none => order.reverse
    | some e =>
      let new := (nb e).filter (fun x => decide (x ∉ seen))
      lloop nb key fuel (heap.erase e ++ new) (seen ++ new) (e :: order)

/-- steps are added at the far end; `C09.Reach` (`Proofs/Iterunion.lean`) adds them at the near end, and
`Proofs/Traversal.lean` goes from one to the other -/
inductive Reach (nb : Nat → List Nat) : Nat → Nat → Prop
  | refl (a) : Reach nb a a
  | step {a d x} : Reach nb a d → x ∈ nb d → Reach nb a x

variable (nb : Nat → List Nat) (key : Nat → Nat) (bot N : Nat)

structure Hyp : Prop where
  inj : ∀ x y, Reach nb bot x → Reach nb bot y → key x = key y → x = y
  mono : ∀ e, Reach nb bot e → ∀ x ∈ nb e, key e < key x
  nodup : ∀ e, Reach nb bot e → (nb e).Nodup
  bound : ∀ e, Reach nb bot e → e < N

structure Inv (heap seen order : List Nat) : Prop where
  seenNodup : seen.Nodup
  heapNodup : heap.Nodup
  split : ∀ x, x ∈ seen ↔ x ∈ heap ∨ x ∈ order
  disj : ∀ x, x ∈ heap → x ∉ order
  closedNb : ∀ e ∈ order, ∀ x ∈ nb e, x ∈ seen
  reach : ∀ x ∈ seen, Reach nb bot x
  sorted : order.Pairwise (fun a b => key b < key a)
  above : ∀ h ∈ heap, ∀ e ∈ order, key e < key h
  hasBot : bot ∈ seen

theorem inv_init : Inv nb key bot [bot] [bot] [] where
  seenNodup := List.nodup_singleton _
  heapNodup := List.nodup_singleton _
  split := fun _ => (or_iff_left List.not_mem_nil).symm
  disj := fun _ _ => List.not_mem_nil
  closedNb := fun _ h => absurd h List.not_mem_nil
  reach := fun _ h => List.mem_singleton.mp h ▸ Reach.refl _
  sorted := List.Pairwise.nil
  above := fun _ _ _ h => absurd h List.not_mem_nil
  hasBot := List.mem_singleton_self _

section
variable {nb key bot} {heap seen order : List Nat}

/-- the four bookkeeping clauses of `Inv` say that `seen`, which has no repeats, is `heap ++ order` rearranged -/
theorem Inv.perm (I : Inv nb key bot heap seen order) : seen.Perm (heap ++ order) :=
  (List.perm_ext_iff_of_nodup I.seenNodup (List.nodup_append.mpr ⟨I.heapNodup,
    I.sorted.imp fun h e => absurd (e ▸ h) (lt_irrefl _), fun a ha _ hb e => I.disj a ha (e ▸ hb)⟩)).mpr
    fun x => (I.split x).trans List.mem_append.symm

theorem Inv.of_perm (hp : seen.Perm (heap ++ order)) (hn : seen.Nodup)
    (closedNb : ∀ e ∈ order, ∀ x ∈ nb e, x ∈ seen) (reach : ∀ x ∈ seen, Reach nb bot x)
    (sorted : order.Pairwise (fun a b => key b < key a)) (above : ∀ h ∈ heap, ∀ e ∈ order, key e < key h)
    (hasBot : bot ∈ seen) : Inv nb key bot heap seen order :=
  have hn' := List.nodup_append.mp (hp.nodup_iff.mp hn)
  { seenNodup := hn, heapNodup := hn'.1, split := fun _ => hp.mem_iff.trans List.mem_append,
    disj := fun x hx ho => hn'.2.2 x hx x ho rfl, closedNb, reach, sorted, above, hasBot }
end

theorem inv_step (H : Hyp nb key bot N) {heap seen order : List Nat} {e : Nat}
    (I : Inv nb key bot heap seen order) (he : e ∈ heap) (hmin : ∀ x ∈ heap, key e ≤ key x) :
    Inv nb key bot (heap.erase e ++ (nb e).filter (fun x => decide (x ∉ seen)))
      (seen ++ (nb e).filter (fun x => decide (x ∉ seen))) (e :: order) := by
  set new := (nb e).filter (fun x => decide (x ∉ seen)) with hnew
  have heseen : e ∈ seen := (I.split e).mpr (Or.inl he)
  have hRe : Reach nb bot e := I.reach e heseen
  have new_mem : ∀ x, x ∈ new ↔ x ∈ nb e ∧ x ∉ seen := by
    intro x; simp [hnew, List.mem_filter]
  refine Inv.of_perm ?_ ?_ ?_ ?_ ?_ ?_ (List.mem_append_left _ I.hasBot)
  · -- `e` moves from the heap to the order, the new ones join both sides
    have h1 : (seen ++ new).Perm (e :: (heap.erase e ++ order ++ new)) :=
      (I.perm.trans ((List.perm_cons_erase he).append_right _)).append_right new
    have h2 : (heap.erase e ++ order ++ new).Perm (heap.erase e ++ new ++ order) := by
      rw [List.append_assoc, List.append_assoc]; exact List.perm_append_comm.append_left _
    exact h1.trans ((h2.cons e).trans List.perm_middle.symm)
  · exact I.seenNodup.append ((H.nodup e hRe).filter _) fun a ha hb => ((new_mem a).mp hb).2 ha
  · intro a ha x hx
    rcases List.mem_cons.mp ha with rfl | ha
    · by_cases hxs : x ∈ seen
      · exact List.mem_append_left _ hxs
      · exact List.mem_append_right _ ((new_mem x).mpr ⟨hx, hxs⟩)
    · exact List.mem_append_left _ (I.closedNb a ha x hx)
  · intro x hx
    rcases List.mem_append.mp hx with h | h
    · exact I.reach x h
    · exact Reach.step hRe ((new_mem x).mp h).1
  · exact List.Pairwise.cons (fun a ha => I.above e he a ha) I.sorted
  · intro h hh a ha
    rcases List.mem_append.mp hh with hh | hh
    · have hhh := List.mem_of_mem_erase hh
      rcases List.mem_cons.mp ha with rfl | ha
      · -- keys are injective on what is reached, and `h` is another element of the heap than the minimum `a`
        refine lt_of_le_of_ne (hmin h hhh) fun heq => ?_
        have := H.inj _ _ hRe (I.reach h ((I.split h).mpr (Or.inl hhh))) heq
        exact (List.Nodup.mem_erase_iff I.heapNodup).mp (this ▸ hh) |>.1 rfl
      · exact I.above h hhh a ha
    · have hlt : key e < key h := H.mono e hRe h ((new_mem h).mp hh).1
      rcases List.mem_cons.mp ha with rfl | ha
      · exact hlt
      · exact lt_trans (I.above e he a ha) hlt

/-- final state of the loop: reached with an empty heap -/
structure Final (out : List Nat) : Prop where
  sorted : out.Pairwise (fun a b => key a < key b)
  mem : ∀ x, x ∈ out ↔ Reach nb bot x

theorem lloop_correct (H : Hyp nb key bot N) :
    ∀ (fuel : Nat) (heap seen order : List Nat), Inv nb key bot heap seen order →
      N + 1 ≤ fuel + order.length → order.Nodup →
      Final nb key bot (lloop nb key fuel heap seen order) := by
  intro fuel
  induction fuel with
  | zero =>
    intro heap seen order I hf hnd
    exfalso
    -- pigeonhole: `order` holds distinct reachable numbers, all below `N`, so it cannot have `N + 1` entries
    have h1 : order.length ≤ N := length_le_of_nodup_bound hnd
      (fun x hx => H.bound x (I.reach x ((I.split x).mpr (Or.inr hx))))
    omega
  | succ fuel ih =>
    intro heap seen order I hf hnd
    unfold lloop
    rcases minBy_spec key heap with ⟨rfl, hnone⟩ | ⟨e, hsome, he, hmin⟩
    · simp only [hnone]
      refine ⟨by rw [List.pairwise_reverse]; exact I.sorted, fun x => ?_⟩
      rw [List.mem_reverse]
      have hseen : ∀ y, y ∈ seen ↔ y ∈ order := fun y => by simpa using I.split y
      constructor
      · exact fun hx => I.reach x ((hseen x).mpr hx)
      · intro hx
        induction hx with
        | refl => exact (hseen _).mp I.hasBot
        | step _ hxd ih2 => exact (hseen _).mp (I.closedNb _ ih2 _ hxd)
    · simp only [hsome]
      have hnd' : (e :: order).Nodup := List.nodup_cons.mpr ⟨I.disj e he, hnd⟩
      exact ih _ _ _ (inv_step nb key bot N H I he hmin) (by rw [List.length_cons, ← Nat.add_assoc, Nat.add_right_comm]; exact hf) hnd'

/-- started at the bottom with fuel `N + 1`, the loop emits exactly the `nb`-reachable sets, in
strictly increasing key order -/
theorem lindig_order (H : Hyp nb key bot N) :
    Final nb key bot (lloop nb key (N + 1) [bot] [bot] []) :=
  lloop_correct nb key bot N H (N + 1) [bot] [bot] [] (inv_init nb key bot) (by simp) (by simp)

end LindigAbs
end FCA
