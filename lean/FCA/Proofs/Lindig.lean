import FCA.Proofs.Neighbors
import FCA.Proofs.Keys
import FCA.Proofs.LindigAbs
import FCA.Proofs.Link
import FCA.Proofs.ListAux
/-
`lindig.lattice` of the model: the records it yields are exactly the formal concepts, once each, in
shortlex order, with `upper` = upper covers and `lower` = lower covers (as read after exhaustion).
-/
namespace FCA
open LindigAbs

def nbExt (K : Ctx) (e : Nat) : List Nat := (neighbors K e).map Prod.fst

theorem bot_closed {K : Ctx} (h : K.WF) : closedObj K (K.doubleObj 0) := doubleObj_closed h 0

theorem bot_least {K : Ctx} {X : Nat} (hX : closedObj K X) : (K.doubleObj 0) ⊆ᵇ X :=
  closed_sub_of_sub hX (zero_sub X)

theorem mem_nbExt {K : Ctx} (h : K.WF) {G : Nat} (hG : closedObj K G) {D : Nat} :
    D ∈ nbExt K G ↔ covers K G D := mem_neighbors_fst h hG

theorem reach_from_closed {K : Ctx} (h : K.WF) {G x : Nat} (hG : closedObj K G) (hr : Reach (nbExt K) G x) :
    closedObj K x ∧ G ⊆ᵇ x := by
  induction hr with
  | refl => exact ⟨hG, sub_refl _⟩
  | step _ hx ih =>
    have hc := (mem_nbExt h ih.1).mp hx
    exact ⟨hc.1, sub_trans ih.2 hc.2.1⟩

theorem reach_closed {K : Ctx} (h : K.WF) {x : Nat} (hr : Reach (nbExt K) (K.doubleObj 0) x) : closedObj K x :=
  (reach_from_closed h (bot_closed h) hr).1

theorem closed_reach_from {K : Ctx} (h : K.WF) {G : Nat} (hG : closedObj K G) :
    ∀ (N x : Nat), x = N → closedObj K x → G ⊆ᵇ x → Reach (nbExt K) G x := by
  intro N
  induction N using Nat.strong_induction_on with
  | _ N ih =>
    intro x hxN hx hGx
    by_cases hb : x = G
    · rw [hb]; exact Reach.refl _
    · -- the numerically greatest closed set strictly between is ⊆-maximal (`le_of_sub`), hence a lower cover of `x`
      obtain ⟨y, hy, hmax⟩ := exists_greatest (P := fun y => closedObj K y ∧ G ⊆ᵇ y ∧ y ⊆ᵇ x ∧ y ≠ x)
        (fun y hy => le_of_sub hy.2.2.1) ⟨G, hG, sub_refl _, hGx, fun e => hb e.symm⟩
      refine Reach.step (ih y (hxN ▸ lt_of_sub_ne hy.2.2.1 hy.2.2.2) y rfl hy.1 hy.2.1)
        ((mem_nbExt h hy.1).mpr ⟨hx, hy.2.2.1, hy.2.2.2, fun X hX hyX hXx => ?_⟩)
      by_cases hXx' : X = x
      · exact Or.inr hXx'
      · exact Or.inl (le_antisymm (hmax X ⟨hX, sub_trans hy.2.1 hyX, hXx, hXx'⟩) (le_of_sub hyX))

theorem reach_iff_closed {K : Ctx} (h : K.WF) (x : Nat) : Reach (nbExt K) (K.doubleObj 0) x ↔ closedObj K x :=
  ⟨reach_closed h, fun hc => closed_reach_from h (bot_closed h) x x rfl hc (bot_least hc)⟩

theorem lindig_hyp {K : Ctx} (h : K.WF) : Hyp (nbExt K) (shortlexKey K.n) (K.doubleObj 0) (2 ^ K.n) where
  inj := fun x y hx hy hk => shortlexKey_inj (reach_closed h hx).1 (reach_closed h hy).1 hk
  mono := fun e he x hx => by
    have hc := (mem_nbExt h (reach_closed h he)).mp hx
    exact shortlexKey_lt_of_ssub hc.2.1 hc.1.1 hc.2.2.1
  nodup := fun e he => neighbors_nodup h (reach_closed h he)
  bound := fun e he => bounded_iff_lt.mp (reach_closed h he).1

/-- record-level invariant of the loop (`order` is the reversed emission order) -/
structure RecInv (K : Ctx) (recs : List Rec) (order : List Nat) : Prop where
  intent : ∀ r ∈ recs, r.intent = K.intentOf r.extent
  upper : ∀ r ∈ recs, r.upper = if r.extent ∈ order then nbExt K r.extent else []
  lower : ∀ r ∈ recs, r.lower = order.reverse.filter (fun d => decide (r.extent ∈ nbExt K d))

/-- the record the mapping holds for the key `x` when `order` has been emitted; these records satisfy `RecInv`
(`recInv_map`) -/
def recOf (K : Ctx) (order : List Nat) (x : Nat) : Rec :=
  ⟨x, K.intentOf x, if x ∈ order then nbExt K x else [], order.reverse.filter fun d => decide (x ∈ nbExt K d)⟩

theorem recInv_map (K : Ctx) (seen order : List Nat) : RecInv K (seen.map (recOf K order)) order := by
  constructor <;> intro r hr <;> obtain ⟨x, _, rfl⟩ := List.mem_map.mp hr <;> rfl

theorem ite_mem_append_ite {α β : Type} [DecidableEq α] (f : α → List β) {e : α} {o : List α} (heo : e ∉ o) (x : α) :
    (if x ∈ o then f x else []) ++ (if x = e then f e else []) = if x ∈ e :: o then f x else [] := by
  by_cases h1 : x = e
  · subst h1; rw [if_neg heo, if_pos rfl, if_pos List.mem_cons_self]; rfl
  · rw [if_neg h1, List.append_nil]
    exact if_congr (by rw [List.mem_cons, or_iff_right h1]) rfl rfl

theorem recOf_cons (K : Ctx) {order : List Nat} {e : Nat} (he : e ∉ order) (x : Nat) :
    Rec.upd e (nbExt K e) (recOf K order x) = recOf K (e :: order) x := by
  simp only [Rec.upd, recOf, List.reverse_cons, filter_concat_decide (fun d => x ∈ nbExt K d)]
  exact congrArg (Rec.mk x _ · _) (ite_mem_append_ite (nbExt K) he x)

/-- a neighbor that is no key yet is a neighbor of no emitted element, and is not emitted, so its record is blank
before `e` is handled -/
theorem link_step {K : Ctx} (h : K.WF) {heap seen order : List Nat} {e : Nat}
    (I : Inv (nbExt K) (shortlexKey K.n) (K.doubleObj 0) heap seen order) (he : e ∈ heap) (hp : List Nat) :
    linkNeighbors e (neighbors K e) (seen.map (recOf K order)) hp =
      ((seen ++ (nbExt K e).filter fun x => decide (x ∉ seen)).map (recOf K (e :: order)),
        hp ++ (nbExt K e).filter fun x => decide (x ∉ seen)) := by
  have heseen : e ∈ seen := (I.split e).mpr (Or.inl he)
  have hc := reach_closed h (I.reach e heseen)
  have h0 : seen.map (recOf K order) = seen.map fun x => Rec.upd e [] (recOf K order x) :=
    List.map_congr_left fun x _ => (Rec.upd_nil e _).symm
  rw [h0, linkNeighbors_map e (recOf K order) (fun _ => rfl) _ [] seen hp heseen (neighbors_nodup h hc)
    (fun _ _ => List.not_mem_nil) fun p hp hps => ?_]
  · exact congrArg (·, _) (List.map_congr_left fun x _ => recOf_cons K (I.disj e he) x)
  · have hno : p.1 ∉ order := fun hm => hps ((I.split _).mpr (Or.inr hm))
    rw [recOf, if_neg hno, ← neighbors_snd h hc hp, List.filter_eq_nil_iff.mpr fun d hd hm =>
      hps (I.closedNb d (List.mem_reverse.mp hd) _ (of_decide_eq_true hm))]

theorem lindigLoop_sim {K : Ctx} (h : K.WF) :
    ∀ (fuel : Nat) (heap seen order : List Nat), Inv (nbExt K) (shortlexKey K.n) (K.doubleObj 0) heap seen order →
      ∃ seen' : List Nat, lindigLoop K fuel heap (seen.map (recOf K order)) order =
          (seen'.map (recOf K (lloop (nbExt K) (shortlexKey K.n) fuel heap seen order).reverse),
            lloop (nbExt K) (shortlexKey K.n) fuel heap seen order) ∧
        ∀ x ∈ lloop (nbExt K) (shortlexKey K.n) fuel heap seen order, x ∈ seen' := by
  have stop : ∀ (heap seen order : List Nat), Inv (nbExt K) (shortlexKey K.n) (K.doubleObj 0) heap seen order →
      ∃ seen' : List Nat, (seen.map (recOf K order), order.reverse) = (seen'.map (recOf K order.reverse.reverse), order.reverse) ∧
        ∀ x ∈ order.reverse, x ∈ seen' := fun heap seen order I =>
    ⟨seen, by rw [List.reverse_reverse], fun x hx => (I.split x).mpr (.inr (List.mem_reverse.mp hx))⟩
  intro fuel
  induction fuel with
  | zero => intro heap seen order I; exact stop heap seen order I
  | succ fuel ih =>
    intro heap seen order I
    unfold lindigLoop lloop
    rcases minBy_spec (shortlexKey K.n) heap with ⟨rfl, hnone⟩ | ⟨e, hsome, he, hmin⟩
    · simp only [hnone]; exact stop [] seen order I
    · simp only [hsome, link_step h I he]
      exact ih _ _ _ (inv_step (nbExt K) (shortlexKey K.n) (K.doubleObj 0) (2 ^ K.n) (lindig_hyp h) I he hmin)

/-- the records of `lindig.lattice`, in yield order, read after exhaustion -/
structure LindigSpec (K : Ctx) (out : List Rec) : Prop where
  /-- strictly increasing shortlex key (hence no repeats) -/
  sorted : (out.map (·.extent)).Pairwise (fun a b => shortlexKey K.n a < shortlexKey K.n b)
  /-- exactly the closed extents -/
  mem : ∀ x, x ∈ out.map (·.extent) ↔ closedObj K x
  intent : ∀ r ∈ out, r.intent = K.intentOf r.extent
  upper : ∀ r ∈ out, r.upper = nbExt K r.extent
  lower : ∀ r ∈ out, r.lower = (out.map (·.extent)).filter (fun d => decide (r.extent ∈ nbExt K d))

theorem LindigSpec.nodup {K : Ctx} {out : List Rec} (S : LindigSpec K out) : (out.map (·.extent)).Nodup :=
  nodup_of_strict S.sorted

theorem LindigSpec.closed {K : Ctx} {out : List Rec} (S : LindigSpec K out) {r : Rec} (hr : r ∈ out) :
    closedObj K r.extent := (S.mem _).mp (List.mem_map_of_mem hr)

theorem LindigSpec.mem_upper {K : Ctx} {out : List Rec} (S : LindigSpec K out) (h : K.WF) {r : Rec} (hr : r ∈ out)
    {D : Nat} : D ∈ r.upper ↔ covers K r.extent D := by
  rw [S.upper r hr]; exact mem_nbExt h (S.closed hr)

theorem LindigSpec.mem_lower {K : Ctx} {out : List Rec} (S : LindigSpec K out) (h : K.WF) {r : Rec} (hr : r ∈ out)
    {D : Nat} : D ∈ r.lower ↔ closedObj K D ∧ covers K D r.extent := by
  rw [S.lower r hr, List.mem_filter, S.mem, decide_eq_true_eq]
  exact and_congr_right fun hD => mem_nbExt h hD

theorem lindigSpec_map {K : Ctx} (h : K.WF) {out : List Nat} (F : Final (nbExt K) (shortlexKey K.n) (K.doubleObj 0) out) :
    LindigSpec K (out.map (recOf K out.reverse)) := by
  have hext : (out.map (recOf K out.reverse)).map (·.extent) = out :=
    map_extent_map (fun _ => rfl) out
  refine ⟨hext.symm ▸ F.sorted, fun x => by rw [hext, F.mem, reach_iff_closed h], fun r hr => ?_, fun r hr => ?_,
    fun r hr => ?_⟩ <;> obtain ⟨x, hx, rfl⟩ := List.mem_map.mp hr
  · rfl
  · exact if_pos (List.mem_reverse.mpr hx)
  · rw [hext]; exact congrArg (List.filter _) (List.reverse_reverse out)

theorem lindigLattice_spec {K : Ctx} (h : K.WF) : LindigSpec K (lindigLattice K) := by
  unfold lindigLattice
  rw [dpObj_eq h (bounded_zero _)]
  obtain ⟨seen', hsim, hkeys⟩ := lindigLoop_sim h (2 ^ K.n + 1) [K.doubleObj 0] [K.doubleObj 0] [] (inv_init _ _ _)
  have h0 : [(⟨K.doubleObj 0, K.intentOf (K.doubleObj 0), [], []⟩ : Rec)] = [K.doubleObj 0].map (recOf K []) := rfl
  simp only
  rw [h0, hsim]
  simp only
  rw [filterMap_recFind_map (fun _ => rfl) hkeys]
  exact lindigSpec_map h (lindig_order _ _ _ _ (lindig_hyp h))

end FCA
