import FCA.Proofs.DefnDerive
import FCA.Proofs.DefnInv
import FCA.Proofs.DefnOps
import FCA.Proofs.Members
import FCA.Proofs.Validate
namespace FCA

/-! ### the table of a constructed definition is the given table -/

theorem ofTriple_bools {os ps : List Name} {bs : List (List Bool)} {d : Defn}
    (h : Defn.ofTriple os ps bs = .ok d) (hl : bs.length = os.length) (hrow : ∀ row ∈ bs, row.length = ps.length) :
    d.bools = bs := by
  obtain ⟨h1, h2, rfl⟩ := ofTriple_ok h
  have hrow' : ∀ o row, (o, row) ∈ os.zip bs → ps.length = row.length :=
    fun o row hz => (hrow row (List.of_mem_zip hz).2).symm
  refine map_eq_of_zip hl.symm fun o row hz => map_eq_of_zip (hrow' o row hz) fun p b hz' => ?_
  rw [Bool.eq_iff_iff, List.contains_iff_mem, List.mem_eraseDups, mem_triple_cells]
  constructor
  · rintro ⟨row', hz1, hz2⟩
    cases zip_right_unique h1 hl.symm hz hz1
    exact zip_right_unique h2 (hrow' o row hz) hz' hz2
  · rintro rfl
    exact ⟨row, hz, hz'⟩

/-- what `Context.bools` / `Context.definition()` read back from the index-level context -/
def ctxBools (K : Ctx) : List (List Bool) :=
  (List.range K.n).map fun i => (List.range K.m).map fun j => (K.rows[i]!).testBit j

theorem ctxBools_of_testBit {K : Ctx} {bs : List (List Bool)} (hl : bs.length = K.n)
    (hrow : ∀ row ∈ bs, row.length = K.m) (hbit : ∀ i j, (K.rows[i]!).testBit j = (bs.getD i []).getD j false) : ctxBools K = bs := by
  refine List.ext_getElem (by simp only [ctxBools, List.length_map, List.length_range, hl]) fun i _ hi => ?_
  refine List.ext_getElem (by simp only [ctxBools, List.getElem_map, List.length_map, List.length_range,
    hrow _ (List.getElem_mem hi)]) fun j _ hj => ?_
  simp only [ctxBools, List.getElem_map, List.getElem_range, hbit, List.getD_eq_getElem?_getD,
    List.getElem?_eq_getElem hi, List.getElem?_eq_getElem hj, Option.getD_some]

theorem map_length_ctxBools (K : Ctx) : (ctxBools K).map (·.length) = List.replicate K.n K.m := by
  simp only [ctxBools, List.map_map, Function.comp_def, List.length_map, List.length_range, List.map_const']

/-- the rows read back from a well-formed context encode to its row masks -/
theorem ctxBools_rowMask {K : Ctx} (h : K.WF) : ((ctxBools K).map rowMask).toArray = K.rows := by
  have hsz : ((ctxBools K).map rowMask).toArray.size = K.n := by
    simp only [ctxBools, List.size_toArray, List.length_map, List.length_range]
  refine Array.ext (hsz.trans h.1.symm) fun i hi _ => ?_
  have hi' : i < K.n := hsz ▸ hi
  simp only [ctxBools, List.getElem_toArray, List.getElem_map, List.getElem_range]
  rw [rowMask_testBits (h.2.1 i hi'), getElem!_pos K.rows i (h.1 ▸ hi')]

/-! ### the true cells counted -/

theorem card_eq_count (w s : Nat) : card w s = ((List.range w).map fun j => s.testBit j).count true := by
  unfold card
  rw [membersW_eq, List.count_eq_countP, List.countP_map, List.countP_eq_length_filter]
  congr 1
  apply List.filter_congr
  intro j _
  simp

theorem bools_count (d : Defn) :
    (d.bools.map (·.count true)).sum =
      (d.objs.flatMap fun o => d.props.filterMap fun p =>
        if d.pairs.contains (o, p) then some (o, p) else none).length := by
  rw [List.length_flatMap]
  simp only [Defn.bools, List.map_map]
  congr 1
  apply List.map_congr_left
  intro o _
  simp only [Function.comp]
  exact (length_filterMap_ite (fun p => d.pairs.contains (o, p)) (fun p => (o, p)) d.props).symm

theorem bools_count_inv {d : Defn} (h : d.Inv) : (d.bools.map (·.count true)).sum = d.pairs.length := by
  rw [bools_count]
  apply List.Perm.length_eq
  rw [List.perm_ext_iff_of_nodup (nodup_comprehension _ h.1 h.2.1) h.2.2.1]
  rintro ⟨o, p⟩
  rw [mem_subtable]
  exact ⟨fun hh => hh.2.2, fun hh => ⟨(h.mem hh).1, (h.mem hh).2, hh⟩⟩

/-- numerator of `Context.fill_ratio`: `sum(intent.count() for intent in self._intents)` -/
def ctxFillCount (K : Ctx) : Nat := ((List.range K.n).map fun i => card K.m (K.rows[i]!)).sum

theorem ctxFillCount_eq (K : Ctx) : ctxFillCount K = ((ctxBools K).map (·.count true)).sum := by
  simp only [ctxFillCount, ctxBools, List.map_map]
  congr 1
  apply List.map_congr_left
  intro i _
  simp only [Function.comp, card_eq_count]

end FCA
