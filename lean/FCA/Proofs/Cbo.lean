import FCA.Proofs.FcboInner
import FCA.Proofs.Closure
import FCA.Proofs.ListAux
/-
Fast Close-by-One (`fcboNode`) over an abstract side.  Under the invariant of the `sets` list its
inner loop pushes exactly the canonical children, so it is plain Close-by-One (`cboNode`) as a list;
and Close-by-One below a closed `B` with index `y` emits, once each, the closed `D ⊇ B` with
`D ∩ [0, y) ⊆ B`, because the candidate `y` splits that family: the sets that hold a new `y` are those of the
child for `y`, the others those of the same node from `y + 1` on.
-/
namespace FCA
namespace Cbo

variable (S : Side) (der : Nat → Nat)

/-- the closure operator on the `own` side: `prime ∘ der` -/
def cl (a : Nat) : Nat := S.prime (der a)

/-- what the generic algorithm needs from a side; `der` is the derivation `own → other` -/
structure SideOK : Prop where
  ext' : ∀ a, Bounded S.width a → a ⊆ᵇ cl S der a
  mono : ∀ a b, a ⊆ᵇ b → cl S der a ⊆ᵇ cl S der b
  idem : ∀ a, cl S der (cl S der a) = cl S der a
  bdd : ∀ a, Bounded S.width (cl S der a)
  /-- the loop derives `own ∪ {j}` by intersecting `other` with one column -/
  inter : ∀ B j, j < S.width → der B &&& S.col j = der (B ||| 2 ^ j)
  /-- so that a child's `other` is the derivation of its closed `own` -/
  der_cl : ∀ a, Bounded S.width a → der (cl S der a) = der a
  /-- what makes the cut `if not other: continue` lose nothing: such a node has no new generator -/
  empty : ∀ B, cl S der B = B → der B = 0 → ∀ j, j < S.width → j ∈ᵇ B

/-- the child of plain Close-by-One for generator `j` (no `sets` pruning) -/
def child (nd : FNode) (j : Nat) : Option (Nat × FNode) :=
  if 2 ^ j &&& nd.own ≠ 0 then none else
  let jOther := nd.other &&& S.col j
  let jOwn := S.prime jOther
  if (jOwn &&& (2 ^ j - 1)) &&& nd.own = jOwn &&& (2 ^ j - 1) then some (j, ⟨jOwn, jOther⟩) else none

/-- invariant of the `next_property_sets` list at a node with closed set `B` -/
def SetsInv (B : Nat) (sets : Array Nat) : Prop :=
  ∀ j, j < S.width → sets[j]! ⊆ᵇ cl S der (B ||| 2 ^ j)

/-- plain Close-by-One over a side: the recursion of `fcboNode` with the canonical children only -/
def cboNode (S : Side) : Nat → FNode → Nat → List FNode
  | 0, nd, _ => [nd]
  | fuel+1, nd, idx =>
    nd :: (List.range' idx (S.width - idx)).flatMap (fun j =>
      match child S nd j with
      | none => []
      | some p => cboNode S fuel p.2 (p.1 + 1))

theorem getElem!_set! (a : Array Nat) (j k v : Nat) :
    (a.set! j v)[k]! = if j = k ∧ j < a.size then v else a[k]! := by
  by_cases hjk : j = k
  · subst hjk
    by_cases hj : j < a.size
    · rw [if_pos ⟨rfl, hj⟩, Array.getElem!_set!_self a j v hj]
    · rw [if_neg fun h => hj h.2, Array.set!_eq_setIfInBounds, Array.setIfInBounds_eq_of_size_le (Nat.le_of_not_lt hj)]
  · rw [if_neg fun h => hjk h.1, Array.getElem!_set!_ne a j k v hjk]

theorem low_sub_iff {a j b : Nat} : (a &&& (2 ^ j - 1)) &&& b = a &&& (2 ^ j - 1) ↔
    ∀ i, i < j → i ∈ᵇ a → i ∈ᵇ b := by
  rw [and_eq_left_iff]
  -- `2 ^ j - 1` is `full j`
  change (∀ i, i ∈ᵇ (a &&& full j) → i ∈ᵇ b) ↔ _
  simp only [mem_and, mem_full]
  exact ⟨fun h i hij hi => h i ⟨hi, hij⟩, fun h i hi => h i hi.2 hi.1⟩

variable {S der}

theorem SideOK.isClo (ok : SideOK S der) : IsClo S.width (cl S der) :=
  ⟨fun {a} => ok.ext' a, fun {a b} => ok.mono a b, ok.idem, ok.bdd⟩

theorem SideOK.prime_inter (ok : SideOK S der) {nd : FNode} (hother : nd.other = der nd.own) {j : Nat}
    (hj : j < S.width) : S.prime (nd.other &&& S.col j) = cl S der (nd.own ||| 2 ^ j) := by
  rw [hother, ok.inter _ _ hj]; rfl

/-- `j` is canonical over `B`: `cl (B ∪ {j})` adds nothing below `j` -/
def Canon (S : Side) (der : Nat → Nat) (B j : Nat) : Prop :=
  ∀ i, i < j → i ∈ᵇ cl S der (B ||| 2 ^ j) → i ∈ᵇ B

theorem child_eq (ok : SideOK S der) {nd : FNode} (hother : nd.other = der nd.own)
    (hcl : cl S der nd.own = nd.own) {j : Nat} (hj : j < S.width) [Decidable (Canon S der nd.own j)] :
    child S nd j = if ¬ j ∈ᵇ nd.own ∧ Canon S der nd.own j then
      some (j, ⟨cl S der (nd.own ||| 2 ^ j), der (cl S der (nd.own ||| 2 ^ j))⟩) else none := by
  have hprime := ok.prime_inter hother hj
  have hoth : nd.other &&& S.col j = der (cl S der (nd.own ||| 2 ^ j)) := by
    rw [hother, ok.inter _ _ hj, ok.der_cl _ (bounded_or_pow (ok.isClo.bounded_of_closed hcl) hj)]
  rw [child]
  dsimp only
  rw [hprime, hoth]
  by_cases h1 : j ∈ᵇ nd.own
  · rw [if_pos (pow_and_ne_zero_iff.mpr h1), if_neg fun h => h.1 h1]
  · rw [if_neg (mt pow_and_ne_zero_iff.mp h1)]
    by_cases hc : Canon S der nd.own j
    · rw [if_pos (low_sub_iff.mpr hc), if_pos ⟨h1, hc⟩]
    · rw [if_neg (mt low_sub_iff.mp hc), if_neg fun h => hc h.2]

theorem fcboStep_spec (ok : SideOK S der) {nd : FNode} (hother : nd.other = der nd.own)
    {sets : Array Nat} (hinv : SetsInv S der nd.own sets) {j : Nat} (hj : j < S.width) :
    (fcboStep S nd sets j).2 = child S nd j ∧ SetsInv S der nd.own (fcboStep S nd sets j).1 := by
  have hprime := ok.prime_inter hother hj
  rw [fcboStep, child]
  by_cases h1 : 2 ^ j &&& nd.own ≠ 0
  · rw [if_pos h1, if_pos h1]; exact ⟨rfl, hinv⟩
  rw [if_neg h1, if_neg h1]
  by_cases h3 : S.prime (nd.other &&& S.col j) &&& (2 ^ j - 1) &&& nd.own = S.prime (nd.other &&& S.col j) &&& (2 ^ j - 1)
  · -- `sets[j]` lies in the closure, so the pruning test cannot fail where the canonicity test holds
    have h2 : sets[j]! &&& (2 ^ j - 1) &&& nd.own = sets[j]! &&& (2 ^ j - 1) := by
      rw [low_sub_iff] at h3 ⊢
      exact fun i hij hi => h3 i hij (hprime ▸ hinv j hj i hi)
    rw [if_pos h2, if_pos h3]; exact ⟨(if_pos h3).symm, hinv⟩
  · rw [if_neg h3]
    dsimp only
    rw [if_neg h3]
    split
    · refine ⟨rfl, fun k hk => ?_⟩
      rw [getElem!_set!]
      split
      · rename_i hjk; rw [← hjk.1, hprime]; exact sub_refl _
      · exact hinv k hk
    · exact ⟨rfl, hinv⟩

theorem fcboInner_spec (ok : SideOK S der) (nd : FNode) (hother : nd.other = der nd.own) :
    ∀ (js : List Nat) (sets : Array Nat) (acc : List (Nat × FNode)),
      (∀ j ∈ js, j < S.width) → SetsInv S der nd.own sets →
      (fcboInner S nd js sets acc).1 = acc.reverse ++ js.filterMap (child S nd) ∧
      SetsInv S der nd.own (fcboInner S nd js sets acc).2 := by
  intro js
  induction js with
  | nil => intro sets acc _ hinv; simp [fcboInner, hinv]
  | cons j js ih =>
    intro sets acc hjs hinv
    obtain ⟨e, hinv'⟩ := fcboStep_spec ok hother hinv (hjs j (by simp))
    obtain ⟨e1, e2⟩ := ih _ ((fcboStep S nd sets j).2.toList ++ acc) (fun k hk => hjs k (by simp [hk])) hinv'
    rw [fcboInner_cons]
    refine ⟨?_, e2⟩
    rw [e1, e, List.filterMap_cons]
    cases child S nd j <;> simp

theorem setsInv_mono (ok : SideOK S der) {B D : Nat} {sets : Array Nat} (hBD : B ⊆ᵇ D)
    (h : SetsInv S der B sets) : SetsInv S der D sets := fun j hj =>
  sub_trans (h j hj) (ok.mono _ _ (insert_sub_iff.mpr
    ⟨fun i hi => mem_or.mpr (.inl (hBD i hi)), mem_or.mpr (.inr (mem_pow.mpr rfl))⟩))

theorem fcboNode_eq_cboNode (ok : SideOK S der) : ∀ (fuel : Nat) (nd : FNode) (idx : Nat)
    (sets : Array Nat), cl S der nd.own = nd.own → nd.other = der nd.own →
    SetsInv S der nd.own sets → fcboNode S fuel nd idx sets = cboNode S fuel nd idx := by
  classical
  intro fuel
  induction fuel with
  | zero => intro nd idx sets _ _ _; rfl
  | succ fuel ih =>
    intro nd idx sets hB hoth hinv
    obtain ⟨e1, hinv'⟩ := fcboInner_spec ok nd hoth _ sets []
      (fun j hj => (mem_range'_sub.mp (List.mem_reverse.mp hj)).2) hinv
    rw [fcboNode_succ_eq, cboNode]
    refine congrArg (nd :: ·) ?_
    split_ifs with hcut
    · refine (List.flatMap_eq_nil_iff.mpr fun j hj => ?_).symm
      have hjw := (mem_range'_sub.mp hj).2
      rcases hcut with hw | h0
      · exact absurd (hw ▸ (mem_range'_sub.mp hj).1) (not_le.mpr hjw)
      · -- an empty `other` means `own` is everything: no generator is new
        rw [child_eq ok hoth hB hjw, if_neg fun hn => hn.1 (ok.empty _ hB (hoth ▸ h0) j hjw)]
    · rw [e1, List.reverse_nil, List.nil_append, List.filterMap_reverse, List.reverse_reverse, flatMap_filterMap]
      refine List.flatMap_congr fun j hj => ?_
      have hjw := (mem_range'_sub.mp hj).2
      rw [child_eq ok hoth hB hjw]
      split_ifs
      · exact ih _ _ _ (ok.idem _) rfl (setsInv_mono ok (ok.isClo.sub_cl_insert hB) hinv')
      · rfl

/-- the closed sets generated below node `(B, y)` -/
def Sset (S : Side) (der : Nat → Nat) (B y D : Nat) : Prop :=
  cl S der D = D ∧ B ⊆ᵇ D ∧ ∀ i, i < y → i ∈ᵇ D → i ∈ᵇ B

theorem Sset_top (ok : SideOK S der) {B y D : Nat} (hB : cl S der B = B) (hy : S.width ≤ y) :
    Sset S der B y D ↔ D = B :=
  ⟨fun ⟨hD, hsub, hlow⟩ => sub_antisymm
      (fun i hi => hlow i (lt_of_lt_of_le (ok.isClo.bounded_of_closed hD i hi) hy) hi) hsub,
   fun e => e.symm ▸ ⟨hB, sub_refl _, fun _ _ h => h⟩⟩

theorem Sset_succ (ok : SideOK S der) {B y D : Nat} (hB : cl S der B = B) (hy : y < S.width) :
    Sset S der B y D ↔ ((¬ y ∈ᵇ B ∧ Canon S der B y) ∧ Sset S der (cl S der (B ||| 2 ^ y)) (y + 1) D) ∨
      Sset S der B (y + 1) D := by
  have C := ok.isClo
  constructor
  · rintro ⟨hcl, hsub, hlow⟩
    by_cases hyD : y ∈ᵇ D ∧ ¬ y ∈ᵇ B
    · have hsubD := (C.cl_insert_sub_iff hcl hsub hy).mpr hyD.1
      refine .inl ⟨⟨hyD.2, fun i hi hic => hlow i hi (hsubD i hic)⟩, hcl, hsubD, fun i hi hiD => ?_⟩
      rcases Nat.lt_succ_iff_lt_or_eq.mp hi with hlt | rfl
      · exact C.sub_cl_insert hB i (hlow i hlt hiD)
      · exact C.mem_cl_insert hB hy
    · refine .inr ⟨hcl, hsub, fun i hi hiD => ?_⟩
      rcases Nat.lt_succ_iff_lt_or_eq.mp hi with hlt | rfl
      · exact hlow i hlt hiD
      · exact by_contra fun h => hyD ⟨hiD, h⟩
  · rintro (⟨⟨_, hc⟩, hcl, hsub, hlow⟩ | ⟨hcl, hsub, hlow⟩)
    · exact ⟨hcl, sub_trans (C.sub_cl_insert hB) hsub, fun i hi hiD => hc i hi (hlow i (Nat.lt_succ_of_lt hi) hiD)⟩
    · exact ⟨hcl, hsub, fun i hi => hlow i (Nat.lt_succ_of_lt hi)⟩

theorem cboNode_perm (S : Side) (fuel : Nat) (nd : FNode) {y : Nat} (hy : y < S.width) :
    (cboNode S (fuel + 1) nd y).Perm
      ((match child S nd y with | none => [] | some p => cboNode S fuel p.2 (p.1 + 1)) ++ cboNode S (fuel + 1) nd (y + 1)) := by
  rw [cboNode, cboNode, show S.width - y = S.width - (y + 1) + 1 by omega, List.range'_succ, List.flatMap_cons]
  exact List.perm_middle.symm

theorem cboNode_spec (ok : SideOK S der) : ∀ (fuel : Nat) (nd : FNode) (idx : Nat),
    S.width - idx ≤ fuel → cl S der nd.own = nd.own → nd.other = der nd.own →
    ((cboNode S fuel nd idx).map (·.own)).Nodup ∧
    (∀ x ∈ cboNode S fuel nd idx, x.other = der x.own) ∧
    ∀ D, D ∈ (cboNode S fuel nd idx).map (·.own) ↔ Sset S der nd.own idx D := by
  classical
  -- on the candidates still to come: the child for `y` (at lower fuel) and the same node from `y + 1` are both smaller
  intro fuel nd y
  induction hd : S.width - y generalizing fuel nd y with
  | zero =>
    intro _ hB hoth
    have : cboNode S fuel nd y = [nd] := by
      cases fuel with
      | zero => rfl
      | succ f => rw [cboNode, hd]; rfl
    rw [this]
    exact ⟨List.nodup_singleton _, fun x hx => List.mem_singleton.mp hx ▸ hoth, fun D => by
      rw [Sset_top ok hB (Nat.le_of_sub_eq_zero hd)]; exact List.mem_singleton⟩
  | succ d ih =>
    intro hf hB hoth
    obtain ⟨fuel, rfl⟩ := Nat.exists_eq_succ_of_ne_zero (Nat.ne_of_gt (Nat.lt_of_lt_of_le (Nat.succ_pos d) hf))
    have hy : y < S.width := Nat.lt_of_sub_eq_succ hd
    have hd' : S.width - (y + 1) = d := by rw [Nat.sub_succ, hd]; rfl
    obtain ⟨n1, o1, m1⟩ := ih (fuel + 1) nd (y + 1) hd' (Nat.le_of_succ_le hf) hB hoth
    obtain ⟨n0, o0, m0⟩ : let l := match child S nd y with | none => [] | some p => cboNode S fuel p.2 (p.1 + 1)
        (l.map (·.own)).Nodup ∧ (∀ x ∈ l, x.other = der x.own) ∧ ∀ D, D ∈ l.map (·.own) ↔
          (¬ y ∈ᵇ nd.own ∧ Canon S der nd.own y) ∧ Sset S der (cl S der (nd.own ||| 2 ^ y)) (y + 1) D := by
      rw [child_eq ok hoth hB hy]
      by_cases hg : ¬ y ∈ᵇ nd.own ∧ Canon S der nd.own y
      · rw [if_pos hg]
        obtain ⟨n0, o0, m0⟩ := ih fuel ⟨cl S der (nd.own ||| 2 ^ y), der (cl S der (nd.own ||| 2 ^ y))⟩ (y + 1)
          hd' (Nat.le_of_succ_le_succ hf) (ok.idem _) rfl
        exact ⟨n0, o0, fun D => (m0 D).trans (and_iff_right hg).symm⟩
      · rw [if_neg hg]
        exact ⟨List.nodup_nil, fun _ h => absurd h List.not_mem_nil, fun D => iff_of_false List.not_mem_nil fun h => hg h.1⟩
    have P := cboNode_perm S fuel nd hy
    refine ⟨((P.map _).nodup_iff).mpr (List.map_append ▸ List.nodup_append.mpr ⟨n0, n1, fun D h0 D' h1 e => ?_⟩),
      fun x hx => (List.mem_append.mp (P.mem_iff.mp hx)).elim (o0 x) (o1 x), fun D => ?_⟩
    · -- a set of the child holds `y`, which is new; a set from `y + 1` on does not
      have h0 := (m0 D).mp h0
      exact h0.1.1 (((m1 D').mp h1).2.2 y (Nat.lt_succ_self y) (e ▸ h0.2.2.1 y (ok.isClo.mem_cl_insert hB hy)))
    · rw [(P.map _).mem_iff, List.map_append, List.mem_append, m0, m1, Sset_succ ok hB hy]

theorem fcboNode_spec (ok : SideOK S der) : ∀ (fuel : Nat) (nd : FNode) (idx : Nat) (sets : Array Nat),
    S.width - idx ≤ fuel → cl S der nd.own = nd.own → nd.other = der nd.own →
    SetsInv S der nd.own sets →
    ((fcboNode S fuel nd idx sets).map (·.own)).Nodup ∧
    (∀ x ∈ fcboNode S fuel nd idx sets, x.other = der x.own) ∧
    ∀ D, D ∈ (fcboNode S fuel nd idx sets).map (·.own) ↔ Sset S der nd.own idx D := by
  intro fuel nd idx sets hf hB hoth hinv
  rw [fcboNode_eq_cboNode ok fuel nd idx sets hB hoth hinv]
  exact cboNode_spec ok fuel nd idx hf hB hoth

/-- a list of nodes that carry the derivation of their `own` is known by the `own`s in it -/
theorem mem_iff_own {l : List FNode} {P : Nat → Prop} (h2 : ∀ x ∈ l, x.other = der x.own)
    (h3 : ∀ D, D ∈ l.map (·.own) ↔ P D) (x : FNode) : x ∈ l ↔ x.other = der x.own ∧ P x.own := by
  refine ⟨fun hx => ⟨h2 x hx, (h3 _).mp (List.mem_map_of_mem hx)⟩, fun ⟨ho, hP⟩ => ?_⟩
  obtain ⟨⟨_, b⟩, hx', rfl⟩ := List.mem_map.mp ((h3 _).mpr hP)
  obtain rfl : b = x.other := (h2 _ hx').trans ho.symm
  exact hx'

theorem setsInv_init (S : Side) (der : Nat → Nat) (B k : Nat) :
    SetsInv S der B (Array.replicate k 0) := by
  intro j _
  have : (Array.replicate k 0)[j]! = 0 := by
    by_cases hj : j < k <;> simp [hj]
  rw [this]; exact zero_sub _

theorem fcboNode_root (ok : SideOK S der) :
    let l := fcboNode S (S.width + 1) ⟨cl S der 0, der 0⟩ 0 (Array.replicate S.width 0)
    (l.map (·.own)).Nodup ∧ (∀ x ∈ l, x.other = der x.own) ∧ ∀ D, D ∈ l.map (·.own) ↔ cl S der D = D := by
  obtain ⟨h1, h2, h3⟩ := fcboNode_spec ok (S.width + 1) ⟨cl S der 0, der 0⟩ 0 (Array.replicate S.width 0)
    (Nat.le_succ_of_le (Nat.sub_le _ _)) (ok.idem 0) (ok.der_cl 0 (bounded_zero _)).symm (setsInv_init _ _ _ _)
  exact ⟨h1, h2, fun D => (h3 D).trans
    ⟨fun hS => hS.1, fun hD => ⟨hD, ok.isClo.cl_sub hD (zero_sub D), fun i hi => absurd hi (Nat.not_lt_zero i)⟩⟩⟩

end Cbo
end FCA
