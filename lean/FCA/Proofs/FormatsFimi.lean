import FCA.Proofs.FormatsStr
/-
FIMI rows: the index export lists exactly the true cells of each row, ascending; its text.
-/
namespace FCA

/-- the list comprehension of `iter_fimi_rows` for one row: the positions of its true cells -/
def fimiRow (row : List Bool) : List Nat :=
  (row.zipIdx).filterMap fun (b, j) => if b then some j else none

theorem fimiRows_eq (bools : List (List Bool)) : fimiRows bools = bools.map fimiRow := rfl

theorem mem_fimiRow {row : List Bool} {j : Nat} : j ∈ fimiRow row ↔ row[j]? = some true := by
  simp only [fimiRow, List.mem_filterMap, Prod.exists]
  constructor
  · rintro ⟨b, i, hm, hf⟩
    have := List.mem_zipIdx_iff_getElem?.1 hm
    cases b
    · simp at hf
    · simp only [if_true, Option.some.injEq] at hf
      subst hf; simpa using this
  · intro h
    exact ⟨true, j, List.mem_zipIdx_iff_getElem?.2 (by simpa using h), by simp⟩

theorem pairwise_fimiRow (row : List Bool) : (fimiRow row).Pairwise (· < ·) := by
  unfold fimiRow
  refine List.Pairwise.filterMap _ ?_ (pairwise_zipIdx_snd row 0)
  rintro ⟨b, i⟩ ⟨b', i'⟩ hlt j hj j' hj'
  cases b <;> cases b' <;> simp_all

theorem dumpFimi_eq (bools : List (List Bool)) :
    dumpFimi bools =
      unlines ((fimiRows bools).map fun r => joinWith [' '] (r.map fun j => (toString j).toList)) := by
  unfold dumpFimi unlines
  rw [List.flatMap_map]

end FCA
