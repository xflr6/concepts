import FCA.Model.PyLiteral
import FCA.Proofs.FormatsStr
/-
`ReadsBack n item pr ok`: with room for `n` characters `item` reads the printed form `pr v` of an `ok`
value back in front of a delimiter. The display loop asks this of its items, and a display of such
items has it again (`.tuple`, `.list`, `.names`), so everything printed is read back by composition.
The fuel is the length of the whole text, so every caller has `(printed ++ rest).length ≤ n`.
-/
namespace FCA

theorem parseNatLit_repr (n : Nat) {c : Char} (hc : c.isDigit = false) (r : Str) :
    parseNatLit (pyReprNat n ++ c :: r) = some (n, c :: r) := by
  have hd : ∀ c ∈ pyReprNat n, c.isDigit = true := isDigit_toString n
  have hval : (pyReprNat n).foldl (fun a c => 10 * a + (c.toNat - 48)) 0 = n := foldl_toString_nat n
  have hne : (pyReprNat n).isEmpty = false := List.isEmpty_eq_false_iff.2 (toString_nat_ne_nil n)
  have hz : ((pyReprNat n).head? == some '0' && n != 0) = false := by
    by_cases h0 : n = 0
    · simp [h0]
    · have := toDigits_head_ne_zero n (by omega)
      simp only [pyReprNat, Nat.toString_eq_repr, Nat.toList_repr]
      simp [this]
  have hc' : ¬ c.isDigit = true := by simp [hc]
  simp only [parseNatLit, List.takeWhile_append_of_pos hd, List.dropWhile_append_of_pos hd,
    List.takeWhile_cons_of_neg hc', List.dropWhile_cons_of_neg hc', List.append_nil, hne, hval, hz]
  simp

abbrev AllWs (w : Str) : Prop := ∀ c ∈ w, litIsWs c = true

theorem litSkipWs_cons_of_not {c : Char} (s : Str) (h : litIsWs c = false) :
    litSkipWs (c :: s) = c :: s := by
  simp [litSkipWs, h]

theorem litSkipWs_ws_append {w : Str} (hw : AllWs w) (s : Str) : litSkipWs (w ++ s) = litSkipWs s := by
  induction w with
  | nil => rfl
  | cons c w ih =>
    have h1 : litIsWs c = true := hw c (by simp)
    rw [List.cons_append, litSkipWs, if_pos h1]
    exact ih (fun c hc => hw c (by simp [hc]))

abbrev IsCloser (c : Char) : Prop := c = ')' ∨ c = ']' ∨ c = '}'

abbrev IsDelim (c : Char) : Prop := c = ',' ∨ IsCloser c

theorem IsDelim.not_ws {c : Char} (h : IsDelim c) : litIsWs c = false := by
  rcases h with rfl | rfl | rfl | rfl <;> rfl

theorem IsCloser.ne_comma {c : Char} (h : IsCloser c) : c ≠ ',' := by
  rcases h with rfl | rfl | rfl <;> decide

theorem IsDelim.not_digit {c : Char} (h : IsDelim c) : c.isDigit = false := by
  rcases h with rfl | rfl | rfl | rfl <;> rfl

/-- the loop skips blanks and looks for the closing bracket before it calls `item` -/
def GoodHead (s : Str) : Prop := ∃ c t, s = c :: t ∧ litIsWs c = false ∧ ¬ IsCloser c

theorem goodHead_cons {c : Char} {t : Str} (hws : litIsWs c = false) (hcl : ¬ IsCloser c) :
    GoodHead (c :: t) :=
  ⟨c, t, rfl, hws, hcl⟩

structure ReadsBack {α : Type} (n : Nat) (item : Str → Option (α × Str)) (pr : α → Str)
    (ok : α → Prop) : Prop where
  head : ∀ v, GoodHead (pr v)
  read : ∀ v, ok v → ∀ c r, IsDelim c → (pr v ++ c :: r).length ≤ n →
    item (pr v ++ c :: r) = some (v, c :: r)

theorem fuel_eq_succ {a b : Str} {c : Char} {f : Nat} (h : (a ++ c :: b).length ≤ f) :
    ∃ g, f = g + 1 :=
  ⟨f - 1, by rw [List.length_append, List.length_cons] at h; omega⟩

theorem length_le_of_open {o : Char} {w s : Str} {n : Nat} (h : (o :: (w ++ s)).length ≤ n) :
    s.length ≤ n := by
  rw [List.length_cons, List.length_append] at h
  omega

section loop
variable {α : Type} {item : Str → Option (α × Str)} {close : Char}

theorem litSeqLoop_ws {w : Str} (hw : AllWs w) (f : Nat) (s : Str) :
    litSeqLoop item close f (w ++ s) = litSeqLoop item close f s := by
  cases f with
  | zero => rfl
  | succ f => simp only [litSeqLoop, litSkipWs_ws_append hw]

theorem litSeqLoop_close (hc : IsCloser close) (f : Nat) (r : Str) :
    litSeqLoop item close (f + 1) (close :: r) = some ([], true, r) := by
  simp [litSeqLoop, litSkipWs_cons_of_not r (IsDelim.not_ws (.inr hc))]

theorem litSeqLoop_fail (hc : IsCloser close) {s r : Str} (hg : GoodHead s)
    (hi : item (s ++ r) = none) (f : Nat) : litSeqLoop item close f (s ++ r) = none := by
  obtain ⟨c, t, rfl, hws, hcl⟩ := hg
  have hne : c ≠ close := fun h => hcl (h ▸ hc)
  cases f with
  | zero => rfl
  | succ f =>
    rw [List.cons_append] at hi ⊢
    simp [litSeqLoop, litSkipWs_cons_of_not _ hws, hne, hi]

variable {n : Nat} {pr : α → Str} {ok : α → Prop}

theorem ReadsBack.loop_step (R : ReadsBack n item pr ok) (hc : IsCloser close) {v : α} (hv : ok v)
    {d : Char} (hd : IsDelim d) {r : Str} (hlen : (pr v ++ d :: r).length ≤ n) (f : Nat) :
    litSeqLoop item close (f + 1) (pr v ++ d :: r) =
      if d = ',' then (litSeqLoop item close f r).map fun x => (v :: x.1, x.2)
      else if d = close then some ([v], false, r) else none := by
  have hi := R.read v hv d r hd hlen
  obtain ⟨c, t, e, hws, hcl⟩ := R.head v
  have hne : c ≠ close := fun h => hcl (h ▸ hc)
  rw [e, List.cons_append] at hi ⊢
  simp only [litSeqLoop, litSkipWs_cons_of_not _ hws, beq_iff_eq, hne, if_false, hi,
    litSkipWs_cons_of_not r hd.not_ws]
  refine if_congr Iff.rfl ?_ rfl
  cases litSeqLoop item close f r <;> rfl

theorem ReadsBack.mono (R : ReadsBack n item pr ok) {m : Nat} (h : m ≤ n) : ReadsBack m item pr ok :=
  ⟨R.head, fun v hv c r hc hlen => R.read v hv c r hc (Nat.le_trans hlen h)⟩

/-- `tl` is arbitrary: blanks and the bracket (`loop_trailing`), the last item (`loop_join`), or an
item that fails -/
theorem ReadsBack.loop_items (R : ReadsBack n item pr ok) (hc : IsCloser close) {w w' : Str}
    (hw : AllWs w) (hw' : AllWs w') (vs : List α) (hok : ∀ v ∈ vs, ok v) (tl : Str)
    (hlen : (vs.flatMap (fun v => w ++ (pr v ++ ',' :: w')) ++ tl).length ≤ n) :
    ∃ g, tl.length ≤ g ∧
      litSeqLoop item close n (vs.flatMap (fun v => w ++ (pr v ++ ',' :: w')) ++ tl) =
        (litSeqLoop item close g tl).map fun x => (vs ++ x.1, x.2) := by
  induction vs generalizing n with
  | nil => exact ⟨n, by simpa using hlen, by simp⟩
  | cons v vs ih =>
    simp only [List.flatMap_cons, List.append_assoc, List.cons_append, List.length_append,
      List.length_cons] at hlen ⊢
    obtain ⟨n, rfl⟩ : ∃ g, n = g + 1 := ⟨n - 1, by omega⟩
    obtain ⟨g, h1, h3⟩ := ih (R.mono (Nat.le_succ n)) (fun u hu => hok u (List.mem_cons_of_mem _ hu))
      (by simp only [List.length_append]; omega)
    refine ⟨g, h1, ?_⟩
    rw [litSeqLoop_ws hw, R.loop_step hc (hok v List.mem_cons_self) (.inl rfl) (by
        simp only [List.length_append, List.length_cons]; omega), if_pos rfl, litSeqLoop_ws hw', h3,
      Option.map_map]
    rfl

/-- one item a line: then blanks and the closing bracket -/
theorem ReadsBack.loop_trailing (R : ReadsBack n item pr ok) (hc : IsCloser close) {w w' w2 : Str}
    (hw : AllWs w) (hw' : AllWs w') (hw2 : AllWs w2) (vs : List α) (hok : ∀ v ∈ vs, ok v)
    (rest : Str)
    (hlen : (vs.flatMap (fun v => w ++ (pr v ++ ',' :: w')) ++ (w2 ++ close :: rest)).length ≤ n) :
    litSeqLoop item close n (vs.flatMap (fun v => w ++ (pr v ++ ',' :: w')) ++ (w2 ++ close :: rest)) =
      some (vs, true, rest) := by
  obtain ⟨g, h1, h3⟩ := R.loop_items hc hw hw' vs hok _ hlen
  obtain ⟨g, rfl⟩ := fuel_eq_succ h1
  rw [h3, litSeqLoop_ws hw2, litSeqLoop_close hc]
  simp

/-- `', '.join(..)`: no comma after the last item -/
theorem ReadsBack.loop_join (R : ReadsBack n item pr ok) (hc : IsCloser close) {w : Str}
    (hw : AllWs w) {vs : List α} (hne : vs ≠ []) (hok : ∀ u ∈ vs, ok u) (rest : Str)
    (hlen : (joinWith (',' :: w) (vs.map pr) ++ close :: rest).length ≤ n) :
    litSeqLoop item close n (joinWith (',' :: w) (vs.map pr) ++ close :: rest) =
      some (vs, false, rest) := by
  obtain ⟨vs, v, rfl⟩ := (List.eq_nil_or_concat' vs).resolve_left hne
  have e : joinWith (',' :: w) ((vs ++ [v]).map pr) =
      vs.flatMap (fun u => [] ++ (pr u ++ ',' :: w)) ++ pr v := by
    rw [List.map_append, List.map_singleton, joinWith_concat, List.flatMap_map]; simp
  rw [e, List.append_assoc] at hlen ⊢
  obtain ⟨g, h1, h3⟩ := R.loop_items hc (w := []) (by decide) hw vs
    (fun u hu => hok u (List.mem_append_left _ hu)) _ hlen
  obtain ⟨g, rfl⟩ := fuel_eq_succ h1
  rw [List.length_append] at hlen
  rw [h3, R.loop_step hc (hok v (by simp)) (.inr hc) (by omega), if_neg hc.ne_comma, if_pos rfl]
  simp

end loop

theorem parseSeq_paren {α : Type} {item : Str → Option (α × Str)} {n : Nat} {s r : Str} {vs : List α}
    {t : Bool} (h : litSeqLoop item ')' n s = some (vs, t, r)) (ht : vs.length ≠ 1 ∨ t = true) :
    parseSeq item n ('(' :: s) = some (vs, r) := by
  rcases ht with ht | rfl
  · simp [parseSeq, h, ht]
  · simp [parseSeq, h]

theorem parseSeq_bracket {α : Type} {item : Str → Option (α × Str)} {n : Nat} {s r : Str} {vs : List α}
    {t : Bool} (h : litSeqLoop item ']' n s = some (vs, t, r)) :
    parseSeq item n ('[' :: s) = some (vs, r) := by
  simp [parseSeq, h]

/-- `repr` of a tuple of values printed by `pr`: `()`, `(a,)`, `(a, b)` -/
def pyTuple {α : Type} (pr : α → Str) : List α → Str
  | [] => ['(', ')']
  | [a] => '(' :: (pr a ++ [',', ')'])
  | l => '(' :: (joinWith [',', ' '] (l.map pr) ++ [')'])

/-- a display behind its key as `itersection` lays it out: `(⏎    l1,⏎    l2,⏎  )` -/
def litSeqText (opn cls : Char) (lines : List Str) : Str :=
  opn :: '\n' :: (lines.flatMap (fun l => [' ', ' ', ' ', ' '] ++ (l ++ ',' :: ['\n'])) ++ [' ', ' ', cls])

/-- `', '.join(..)` and a comma behind it is the layout with a comma behind every item -/
theorem joinWith_comma_trailing {α : Type} (pr : α → Str) (w : Str) (v : α) (vs : List α) (x : Str) :
    w ++ (joinWith (',' :: w) ((v :: vs).map pr) ++ ',' :: x) =
      (v :: vs).flatMap (fun u => w ++ (pr u ++ ',' :: [])) ++ x := by
  induction vs generalizing v with
  | nil => simp [joinWith]
  | cons u vs ih =>
    rw [List.map_cons, List.map_cons, joinWith_cons_cons, ← List.map_cons, List.flatMap_cons,
      List.append_assoc _ _ x, ← ih u]
    simp

section closure
variable {α : Type} {item : Str → Option (α × Str)} {n : Nat} {pr : α → Str} {ok : α → Prop}

theorem ReadsBack.tuple (R : ReadsBack n item pr fun _ => True) :
    ReadsBack n (parseSeq item n) (pyTuple pr) fun _ => True where
  head l := by
    match l with
    | [] | [_] | _ :: _ :: _ => exact goodHead_cons (by decide) (by decide)
  read l _ c r _ hlen := by
    have hc : IsCloser ')' := .inl rfl
    match l with
    | [] =>
      obtain ⟨n, rfl⟩ := fuel_eq_succ (a := ['(', ')']) hlen
      exact parseSeq_paren (litSeqLoop_close hc n _) (.inr rfl)
    | [a] =>
      have := R.loop_trailing hc (w := []) (w' := []) (w2 := []) (by decide) (by decide) (by decide)
        [a] (fun _ _ => trivial) (c :: r)
      simp only [pyTuple, List.flatMap_cons, List.flatMap_nil, List.nil_append, List.append_nil,
        List.cons_append, List.append_assoc, List.length_cons] at this hlen ⊢
      exact parseSeq_paren (this (by omega)) (.inr rfl)
    | a :: b :: l =>
      simp only [pyTuple, List.cons_append, List.append_assoc, List.nil_append,
        List.length_cons] at hlen ⊢
      exact parseSeq_paren (R.loop_join hc (w := [' ']) (by decide) (by simp) (fun _ _ => trivial)
        _ (by omega)) (.inl (by simp))

theorem ReadsBack.list (R : ReadsBack n item pr ok) :
    ReadsBack n (parseSeq item n) (fun vs => litSeqText '[' ']' (vs.map pr)) (∀ v ∈ ·, ok v) where
  head vs := goodHead_cons (by decide) (by decide)
  read vs hok c r _ hlen := by
    have e : litSeqText '[' ']' (vs.map pr) ++ c :: r = '[' :: (['\n'] ++
        (vs.flatMap (fun u => [' ', ' ', ' ', ' '] ++ (pr u ++ ',' :: ['\n'])) ++
          ([' ', ' '] ++ ']' :: c :: r))) := by
      simp [litSeqText, List.flatMap_map]
    rw [e] at hlen ⊢
    apply parseSeq_bracket
    rw [litSeqLoop_ws (by decide)]
    exact R.loop_trailing (.inr (.inl rfl)) (by decide) (by decide) (by decide) vs hok _
      (length_le_of_open hlen)

/-- `· ≠ []`: without a name the one line is empty, and `(,)` is a syntax error -/
theorem ReadsBack.names (R : ReadsBack n item pr fun _ => True) :
    ReadsBack n (parseSeq item n)
      (fun vs => litSeqText '(' ')' [joinWith [',', ' '] (vs.map pr)]) (· ≠ []) where
  head vs := goodHead_cons (by decide) (by decide)
  read vs hne c r _ hlen := by
    obtain ⟨v, vs, rfl⟩ := List.exists_cons_of_ne_nil hne
    have e : litSeqText '(' ')' [joinWith [',', ' '] ((v :: vs).map pr)] ++ c :: r =
        '(' :: (['\n', ' ', ' ', ' '] ++ ((v :: vs).flatMap (fun u => [' '] ++ (pr u ++ ',' :: [])) ++
          (['\n', ' ', ' '] ++ ')' :: c :: r))) := by
      rw [← joinWith_comma_trailing]
      simp [litSeqText]
    rw [e] at hlen ⊢
    refine parseSeq_paren ?_ (.inr rfl)
    rw [litSeqLoop_ws (by decide)]
    exact R.loop_trailing (.inl rfl) (by decide) (by decide) (by decide) (v :: vs)
      (fun _ _ => trivial) _ (length_le_of_open hlen)

end closure

theorem goodHead_nat (n : Nat) : GoodHead (pyReprNat n) := by
  cases h : pyReprNat n with
  | nil => exact absurd h (toString_nat_ne_nil n)
  | cons c t =>
    have hd := isDigit_toString n c (by rw [← pyReprNat, h]; simp)
    refine goodHead_cons ?_ (fun hc => by rw [IsDelim.not_digit (.inr hc)] at hd; cases hd)
    cases hw : litIsWs c with
    | false => rfl
    | true =>
      simp only [litIsWs, Bool.or_eq_true, beq_iff_eq] at hw
      rcases hw with ((rfl | rfl) | rfl) | rfl <;> simp at hd

theorem readsBack_nat (n : Nat) : ReadsBack n parseNatLit pyReprNat fun _ => True where
  head v := goodHead_nat v
  read v _ _ r hc _ := parseNatLit_repr v hc.not_digit r

theorem pyReprIntTuple_eq : pyReprIntTuple = pyTuple pyReprNat := by
  funext l
  match l with
  | [] | [_] | _ :: _ :: _ => rfl

theorem readsBack_intTuple (n : Nat) :
    ReadsBack n (parseSeq parseNatLit n) pyReprIntTuple fun _ => True :=
  pyReprIntTuple_eq ▸ (readsBack_nat n).tuple

theorem readsBack_entry (n : Nat) : ReadsBack n (parseEntry4 n) pyReprEntry fun _ => True where
  head _ := goodHead_cons (by decide) (by decide)
  read e _ c r hc hlen := by
    obtain ⟨a, b, c', d⟩ := e
    rw [parseEntry4, show pyReprEntry (a, b, c', d) = pyTuple pyReprIntTuple [a, b, c', d] from rfl,
      (readsBack_intTuple n).tuple.read [a, b, c', d] trivial c r hc hlen]

end FCA
