import FCA.Proofs.Defn
namespace FCA

instance Defn.decEq : DecidableEq Defn := fun a b =>
  if h : a.objs = b.objs ∧ a.props = b.props ∧ a.pairs = b.pairs then
    isTrue (by cases a; cases b; simp_all)
  else isFalse (by rintro rfl; simp at h)

instance exceptDecEq {ε α : Type} [DecidableEq ε] [DecidableEq α] : DecidableEq (Except ε α)
  | .ok a, .ok b => if h : a = b then isTrue (by rw [h]) else isFalse (by intro h'; cases h'; exact h rfl)
  | .error a, .error b =>
    if h : a = b then isTrue (by rw [h]) else isFalse (by intro h'; cases h'; exact h rfl)
  | .ok _, .error _ => isFalse (by intro h; cases h)
  | .error _, .ok _ => isFalse (by intro h; cases h)

/-! ### the constructor -/

theorem ofTriple_eq (os ps : List Name) (bs : List (List Bool)) :
    Defn.ofTriple os ps bs =
      if os.Nodup ∧ ps.Nodup then .ok ⟨os, ps, ((os.zip bs).flatMap fun (o, row) =>
        (ps.zip row).filterMap fun (p, b) => if b then some (o, p) else none).eraseDups⟩
      else .error .valueError := by
  simp only [Defn.ofTriple, bne_iff_ne, ne_eq, length_uniq_eq_iff]
  by_cases h1 : os.Nodup <;> by_cases h2 : ps.Nodup <;> simp [h1, h2]

theorem ofTriple_ok {os ps : List Name} {bs : List (List Bool)} {d : Defn}
    (h : Defn.ofTriple os ps bs = .ok d) :
    os.Nodup ∧ ps.Nodup ∧
    d = ⟨os, ps, ((os.zip bs).flatMap fun (o, row) =>
      (ps.zip row).filterMap fun (p, b) => if b then some (o, p) else none).eraseDups⟩ :=
  and_assoc.mp (ite_ok_eq_ok_iff.mp (ofTriple_eq os ps bs ▸ h))

theorem mem_triple_cells {os ps : List Name} {bs : List (List Bool)} {o p : Name} :
    (o, p) ∈ ((os.zip bs).flatMap fun (o, row) =>
        (ps.zip row).filterMap fun (p, b) => if b then some (o, p) else none) ↔
      ∃ row, (o, row) ∈ os.zip bs ∧ (p, true) ∈ ps.zip row := by
  simp only [List.mem_flatMap, List.mem_filterMap, Prod.exists]
  constructor
  · rintro ⟨a, row, hz, b, v, hz2, hif⟩
    cases v
    · simp at hif
    · simp only [if_true, Option.some.injEq, Prod.mk.injEq] at hif
      obtain ⟨rfl, rfl⟩ := hif
      exact ⟨row, hz, hz2⟩
  · rintro ⟨row, hz, hz2⟩
    exact ⟨o, row, hz, p, true, hz2, by simp⟩

/-- `Definition(*d)`: the constructor's double `zip` over `d.bools` is the comprehension of `take` over all names -/
theorem fresh_cells_eq (d : Defn) :
    ((d.objs.zip d.bools).flatMap fun (o, row) =>
        (d.props.zip row).filterMap fun (p, b) => if b then some (o, p) else none) =
      d.objs.flatMap fun o => d.props.filterMap fun p => if d.pairs.contains (o, p) then some (o, p) else none := by
  simp only [Defn.bools, ← List.map_prod_left_eq_zip, List.flatMap_map, List.filterMap_map]
  rfl

theorem eqv_iff {a b : Defn} :
    a.eqv b = true ↔ (∀ x, x ∈ a.objs ↔ x ∈ b.objs) ∧ (∀ x, x ∈ a.props ↔ x ∈ b.props) ∧
      (∀ q, q ∈ a.pairs ↔ q ∈ b.pairs) := by
  simp only [Defn.eqv, Bool.and_eq_true, List.all_eq_true, List.contains_iff_mem]
  constructor
  · rintro ⟨⟨⟨⟨⟨h1, h2⟩, h3⟩, h4⟩, h5⟩, h6⟩
    exact ⟨fun x => ⟨h1 x, h2 x⟩, fun x => ⟨h3 x, h4 x⟩, fun q => ⟨h5 q, h6 q⟩⟩
  · rintro ⟨h1, h2, h3⟩
    exact ⟨⟨⟨⟨⟨fun x => (h1 x).1, fun x => (h1 x).2⟩, fun x => (h2 x).1⟩, fun x => (h2 x).2⟩,
      fun q => (h3 q).1⟩, fun q => (h3 q).2⟩

/-! ### `bools` -/

theorem bools_length (d : Defn) : d.bools.length = d.objs.length := by simp [Defn.bools]

theorem bools_row_length (d : Defn) : ∀ row ∈ d.bools, row.length = d.props.length := by
  intro row h
  simp only [Defn.bools, List.mem_map] at h
  obtain ⟨o, _, rfl⟩ := h
  simp

theorem bools_getElem (d : Defn) (i j : Nat) (hi : i < d.objs.length) (hj : j < d.props.length) :
    ((d.bools[i]'(by rw [bools_length]; exact hi))[j]'(by
      rw [bools_row_length d _ (List.getElem_mem _)]; exact hj)) =
      d.pairs.contains (d.objs[i], d.props[j]) := by
  simp [Defn.bools]

theorem bools_eq_iff {d e : Defn} (ho : d.objs = e.objs) (hp : d.props = e.props) :
    d.bools = e.bools ↔ ∀ o ∈ d.objs, ∀ p ∈ d.props, ((o, p) ∈ d.pairs ↔ (o, p) ∈ e.pairs) := by
  simp only [Defn.bools, ← ho, ← hp]
  rw [List.map_inj_left]
  constructor
  · intro h o ho' p hp'
    have := List.map_inj_left.mp (h o ho') p hp'
    rw [← List.contains_iff_mem, ← List.contains_iff_mem, this]
  · intro h o ho'
    rw [List.map_inj_left]
    intro p hp'
    have := h o ho' p hp'
    rw [Bool.eq_iff_iff, List.contains_iff_mem, List.contains_iff_mem]
    exact this

theorem bools_eq_of_map {d d' : Defn} (f g : Name → Name) (ho : d'.objs = d.objs.map f)
    (hp : d'.props = d.props.map g)
    (h : ∀ o ∈ d.objs, ∀ p ∈ d.props, ((f o, g p) ∈ d'.pairs ↔ (o, p) ∈ d.pairs)) : d'.bools = d.bools := by
  simp only [Defn.bools, ho, hp, List.map_map]
  exact List.map_congr_left fun o ho => List.map_congr_left fun p hp => contains_eq_of_iff (h o ho p hp)

/-! ### `bools` after a row or a column has gone -/

theorem zip_filter_ne_map {β : Type} (l : List Name) (f : Name → β) (o : Name) :
    ((l.zip (l.map f)).filter fun x => x.1 != o).map (·.2) = (l.filter (· != o)).map f := by
  rw [← List.map_prod_left_eq_zip, List.filter_map, List.map_map]; rfl

theorem zip_filter_all {β : Type} {l : List Name} {bs : List β} {o : Name} (ho : o ∉ l)
    (hl : l.length = bs.length) : ((l.zip bs).filter fun x => x.1 != o).map (·.2) = bs := by
  rw [List.filter_eq_self.mpr]
  · exact List.map_snd_zip (by omega)
  · intro x hx
    have := (List.of_mem_zip hx).1
    simp only [bne_iff_ne]
    rintro rfl
    exact ho this

/-- `Nodup` makes the first occurrence, at `idxOf o`, the only entry the filter drops -/
theorem zip_filter_eraseIdx {β : Type} {l : List Name} {bs : List β} {o : Name} (hn : l.Nodup)
    (hl : l.length = bs.length) :
    ((l.zip bs).filter fun x => x.1 != o).map (·.2) = bs.eraseIdx (l.idxOf o) := by
  induction l generalizing bs with
  | nil =>
    cases bs with
    | nil => rfl
    | cons b bs' => simp at hl
  | cons x xs ih =>
    cases bs with
    | nil => simp at hl
    | cons b bs' =>
      have hl' : xs.length = bs'.length := by simpa using hl
      rw [List.nodup_cons] at hn
      by_cases hx : x = o
      · subst hx
        simp only [List.zip_cons_cons, List.filter_cons, bne_self_eq_false, Bool.false_eq_true,
          if_false, List.idxOf_cons_self, List.eraseIdx_zero, List.tail_cons]
        exact zip_filter_all hn.1 hl'
      · have b1 : (x != o) = true := by simpa using hx
        have b2 : (x == o) = false := by simpa using hx
        simp only [List.zip_cons_cons, List.filter_cons, b1, if_true, List.map_cons,
          List.idxOf_cons, b2, cond_false, List.eraseIdx_cons_succ, ih hn.2 hl']

end FCA
