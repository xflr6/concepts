import FCA.Proofs.FormatsCxt
/-
The table loader on the text of an independent writer: arbitrary blank padding on both sides of
every cell text, any marks for the true cells, any indentation, trailing blanks and `#` comments
after the lines, blank lines and comment lines between them.
-/
namespace FCA

def blanks (n : Nat) : Str := List.replicate n ' '

/-- whitespace, then possibly a `#` comment: a blank line, a comment line, or what may follow the
closing `|` of a table line -/
def noiseLine : Str × Option Str → Str
  | (ws, none) => ws
  | (ws, some t) => ws ++ '#' :: t

/-- the whitespace is whitespace, and there is no line break -/
def NoiseOk (x : Str × Option Str) : Prop :=
  (∀ c ∈ x.1, isSpace c = true ∧ c ≠ '\n') ∧ ∀ t ∈ x.2, '\n' ∉ t

instance (x : Str × Option Str) : Decidable (NoiseOk x) := by unfold NoiseOk; infer_instance

/-- the layout choices of a writer. Line `0` is the header, line `i+1` the line of object `i`;
cell `0` of a line is the object column, cell `j+1` the column of property `j`. -/
structure TableStyle where
  /-- blanks in front of a line -/
  indent : Nat → Nat
  /-- blanks on the left and on the right of the text of a cell (line, cell) -/
  pads : Nat → Nat → Nat × Nat
  /-- the text written into a true cell (object, property) -/
  mark : Nat → Nat → Str
  /-- what follows the closing `|` of a line -/
  trailer : Nat → Str × Option Str
  /-- blank and comment lines in front of a line (`objects.length + 1`: after the last line) -/
  noise : Nat → List (Str × Option Str)

/-- marks are non-blank texts without `|`, `#`, line break; trailers and noise lines are `NoiseOk` -/
def TableStyle.Ok (S : TableStyle) : Prop :=
  (∀ i j, TableLabel (S.mark i j)) ∧ (∀ k, NoiseOk (S.trailer k)) ∧ ∀ k, ∀ x ∈ S.noise k, NoiseOk x

/-- a cell text between its paddings -/
def padCell (lr : Nat × Nat) (t : Str) : Str := blanks lr.1 ++ t ++ blanks lr.2

/-- a data cell: the padded mark, or at least one blank -/
def flagCellW (lr : Nat × Nat) (m : Str) (b : Bool) : Str :=
  if b then padCell lr m else blanks (lr.1 + lr.2 + 1)

/-- a table line: indentation, cells each closed by `|`, trailer -/
def contentLine (indent : Nat) (cells : List Str) (tr : Str × Option Str) : Str :=
  blanks indent ++ (joinWith ['|'] cells ++ ['|']) ++ noiseLine tr

def headerCellsW (S : TableStyle) (properties : List Str) : List Str :=
  properties.zipIdx.map fun x => padCell (S.pads 0 (x.2 + 1)) x.1

def headerLineW (S : TableStyle) (properties : List Str) : Str :=
  contentLine (S.indent 0) (blanks ((S.pads 0 0).1 + (S.pads 0 0).2) :: headerCellsW S properties)
    (S.trailer 0)

def flagCellsW (S : TableStyle) (i : Nat) (row : List Bool) : List Str :=
  row.zipIdx.map fun x => flagCellW (S.pads (i + 1) (x.2 + 1)) (S.mark i x.2) x.1

def rowLineW (S : TableStyle) (i : Nat) (o : Str) (row : List Bool) : Str :=
  contentLine (S.indent (i + 1)) (padCell (S.pads (i + 1) 0) o :: flagCellsW S i row)
    (S.trailer (i + 1))

def tableLinesW (S : TableStyle) (objects properties : List Str) (bools : List (List Bool)) :
    List Str :=
  (S.noise 0).map noiseLine ++ [headerLineW S properties] ++
    ((objects.zip bools).zipIdx.flatMap fun x =>
      (S.noise (x.2 + 1)).map noiseLine ++ [rowLineW S x.2 x.1.1 x.1.2]) ++
    (S.noise (objects.length + 1)).map noiseLine

/-- the table as written by a writer with layout choices `S` -/
def dumpTableWith (S : TableStyle) (objects properties : List Str) (bools : List (List Bool)) : Str :=
  joinWith ['\n'] (tableLinesW S objects properties bools)

/-- the loader's first pass over a line -/
def cleanLine (l : Str) : Str := strip (partitionChar '#' l).1

theorem partition_noise {a : Str} (ha : '#' ∉ a) {x : Str × Option Str} (hx : NoiseOk x) :
    (partitionChar '#' (a ++ noiseLine x)).1 = a ++ x.1 := by
  obtain ⟨ws, t⟩ := x
  have hws : '#' ∉ ws := fun h => absurd (hx.1 _ h).1 (by decide)
  cases t with
  | none =>
    simp only [noiseLine]
    rw [partitionChar_nosep (by simp [ha, hws])]
  | some t =>
    simp only [noiseLine]
    rw [← List.append_assoc, partitionChar_append_sep (by simp [ha, hws])]

theorem clean_noise {x : Str × Option Str} (hx : NoiseOk x) : cleanLine (noiseLine x) = [] := by
  have := partition_noise (a := []) (by simp) hx
  simp only [List.nil_append] at this
  rw [cleanLine, this]
  exact stripBy_all fun c hc => (hx.1 c hc).1

theorem not_mem_noiseLine {x : Str × Option Str} (hx : NoiseOk x) : '\n' ∉ noiseLine x := by
  obtain ⟨ws, t⟩ := x
  have hws : '\n' ∉ ws := fun h => (hx.1 _ h).2 rfl
  cases t with
  | none => simpa [noiseLine] using hws
  | some t =>
    have := hx.2 t rfl
    simp [noiseLine, hws, this]

theorem not_mem_blanks {c : Char} (h : c ≠ ' ') {n : Nat} : c ∉ blanks n :=
  fun hm => h (List.eq_of_mem_replicate hm)

theorem blanks_space {n : Nat} : ∀ c ∈ blanks n, isSpace c = true := replicate_space n

theorem clean_content (indent l : Nat) {body : Str} {tr : Str × Option Str} (hb : '#' ∉ body)
    (hh : ∀ c ∈ body.head?, isSpace c = false) (hl : ∀ c ∈ body.getLast?, isSpace c = false)
    (htr : NoiseOk tr) :
    cleanLine (blanks indent ++ (blanks l ++ body) ++ noiseLine tr) = body := by
  have hno : '#' ∉ blanks indent ++ (blanks l ++ body) := by
    simp only [List.mem_append, not_or]
    exact ⟨not_mem_blanks (by decide), not_mem_blanks (by decide), hb⟩
  rw [cleanLine, partition_noise hno htr]
  have e : blanks indent ++ (blanks l ++ body) ++ tr.1 = (blanks indent ++ blanks l) ++ body ++ tr.1 := by
    simp
  rw [e]
  apply stripBy_pad _ (fun c hc => (htr.1 c hc).1) hh hl
  intro c hc
  rcases List.mem_append.1 hc with hc | hc <;> exact blanks_space c hc

theorem not_mem_padCell {c : Char} (hsp : c ≠ ' ') {lr : Nat × Nat} {t : Str} (h : c ∉ t) :
    c ∉ padCell lr t := by
  simp only [padCell, List.mem_append, not_or]
  exact ⟨⟨not_mem_blanks hsp, h⟩, not_mem_blanks hsp⟩

theorem strip_padCell (lr : Nat × Nat) {t : Str} (h : Trimmed t) : strip (padCell lr t) = t :=
  stripBy_pad blanks_space blanks_space h.head h.last

theorem cellLike_padCell (lr : Nat × Nat) {t : Str} (h : CellLike t) : CellLike (padCell lr t) :=
  ⟨by simp [padCell, h.ne], not_mem_padCell (by decide) h.bar, not_mem_padCell (by decide) h.hash,
    not_mem_padCell (by decide) h.nl⟩

theorem cellLike_blanks (n : Nat) : CellLike (blanks (n + 1)) :=
  ⟨by simp [blanks, List.replicate_succ], not_mem_blanks (by decide), not_mem_blanks (by decide),
    not_mem_blanks (by decide)⟩

theorem cellLike_flagCellW (lr : Nat × Nat) {m : Str} (hm : TableLabel m) (b : Bool) :
    CellLike (flagCellW lr m b) := by
  cases b
  · exact cellLike_blanks _
  · exact cellLike_padCell lr hm.cellLike

theorem decode_flagCellW (lr : Nat × Nat) {m : Str} (hm : TableLabel m) (b : Bool) :
    (!(strip (flagCellW lr m b)).isEmpty) = b := by
  cases b
  · simp only [flagCellW, Bool.false_eq_true, if_false]
    rw [strip, stripBy_all blanks_space]; rfl
  · simp only [flagCellW, if_true]
    rw [strip_padCell lr hm.trimmed]
    have := hm.1
    cases m <;> simp_all

theorem split_cells {cells : List Str} (hne : cells ≠ []) (h : ∀ c ∈ cells, CellLike c) (a : Str)
    (ha : ∀ x ∈ a, x = '|') :
    splitChar '|' (stripBar (a ++ joinWith ['|'] cells ++ ['|'])) = cells := by
  rw [stripBar, stripBy_joinWith (fun c hc => ⟨(h c hc).ne, (h c hc).bar⟩) a _ ha (by simp),
    splitChar_joinWith hne fun c hc => (h c hc).bar]

theorem headerCellsW_like (S : TableStyle) {properties : List Str}
    (hp : ∀ p ∈ properties, TableLabel p) : ∀ c ∈ headerCellsW S properties, CellLike c := by
  intro c hc
  simp only [headerCellsW, List.mem_map] at hc
  obtain ⟨x, hx, rfl⟩ := hc
  exact cellLike_padCell _ (hp _ (List.fst_mem_of_mem_zipIdx hx)).cellLike

theorem headerCellsW_ne_nil (S : TableStyle) {properties : List Str} (hp : properties ≠ []) :
    headerCellsW S properties ≠ [] := by
  cases properties with
  | nil => contradiction
  | cons p ps => simp [headerCellsW, List.zipIdx_cons]

theorem headerCellsW_strip (S : TableStyle) {properties : List Str}
    (hp : ∀ p ∈ properties, TableLabel p) : (headerCellsW S properties).map strip = properties := by
  rw [headerCellsW, List.map_map]
  have := zipIdx_map_eq (f := strip ∘ fun x : Str × Nat => padCell (S.pads 0 (x.2 + 1)) x.1) (g := id)
    properties (fun a ha j => strip_padCell _ (hp a ha).trimmed) 0
  simpa using this

def barCells (cells : List Str) : Str := '|' :: (joinWith ['|'] cells ++ ['|'])

theorem not_mem_barCells {ch : Char} (hbar : ch ≠ '|') {cells : List Str} (h : ∀ c ∈ cells, ch ∉ c) :
    ch ∉ barCells cells := by
  simp only [barCells, List.mem_cons, List.mem_append, List.not_mem_nil, or_false, not_or]
  exact ⟨hbar, not_mem_joinWith (by simpa using hbar) h, hbar⟩

theorem contentLine_eq {indent : Nat} {c0 : Str} {cells : List Str} (hne : cells ≠ [])
    {tr : Str × Option Str} :
    contentLine indent (c0 :: cells) tr = blanks indent ++ (c0 ++ barCells cells) ++ noiseLine tr := by
  cases cells with
  | nil => contradiction
  | cons x xs => rw [contentLine, joinWith_cons_cons, barCells]; simp

theorem barCells_last (cells : List Str) : ∀ c ∈ (barCells cells).getLast?, isSpace c = false := by
  intro c hc
  have : (barCells cells).getLast? = some '|' := by
    rw [barCells, ← List.cons_append, List.getLast?_append_of_ne_nil _ (by simp)]; rfl
  rw [this] at hc
  cases hc; decide

theorem clean_headerLineW (S : TableStyle) (hS : S.Ok) {properties : List Str} (hpne : properties ≠ [])
    (hp : ∀ p ∈ properties, TableLabel p) :
    cleanLine (headerLineW S properties) = barCells (headerCellsW S properties) := by
  rw [headerLineW, contentLine_eq (headerCellsW_ne_nil S hpne)]
  apply clean_content
  · exact not_mem_barCells (by decide) fun c hc => (headerCellsW_like S hp c hc).hash
  · simp [barCells]; decide
  · exact barCells_last _
  · exact hS.2.1 0

theorem header_parse (S : TableStyle) {properties : List Str} (hpne : properties ≠ [])
    (hp : ∀ p ∈ properties, TableLabel p) :
    (splitChar '|' (stripBar (barCells (headerCellsW S properties)))).map strip = properties := by
  rw [barCells, ← List.singleton_append, ← List.append_assoc,
    split_cells (headerCellsW_ne_nil S hpne) (headerCellsW_like S hp) _ (by simp),
    headerCellsW_strip S hp]

theorem flagCellsW_like (S : TableStyle) (hS : S.Ok) (i : Nat) (row : List Bool) :
    ∀ c ∈ flagCellsW S i row, CellLike c := by
  intro c hc
  simp only [flagCellsW, List.mem_map] at hc
  obtain ⟨x, _, rfl⟩ := hc
  exact cellLike_flagCellW _ (hS.1 _ _) _

theorem flagCellsW_ne_nil (S : TableStyle) (i : Nat) {row : List Bool} (h : row ≠ []) :
    flagCellsW S i row ≠ [] := by
  cases row with
  | nil => contradiction
  | cons b bs => simp [flagCellsW, List.zipIdx_cons]

theorem flagCellsW_decode (S : TableStyle) (hS : S.Ok) (i : Nat) (row : List Bool) :
    (flagCellsW S i row).map (fun f => !(strip f).isEmpty) = row := by
  rw [flagCellsW, List.map_map]
  have := zipIdx_map_eq (f := (fun f => !(strip f).isEmpty) ∘
      fun x : Bool × Nat => flagCellW (S.pads (i + 1) (x.2 + 1)) (S.mark i x.2) x.1) (g := id)
    row (fun b _ j => decode_flagCellW _ (hS.1 i j) b) 0
  simpa using this

def cleanRowW (S : TableStyle) (i : Nat) (o : Str) (row : List Bool) : Str :=
  (o ++ blanks (S.pads (i + 1) 0).2) ++ barCells (flagCellsW S i row)

theorem clean_rowLineW (S : TableStyle) (hS : S.Ok) (i : Nat) {o : Str} (ho : TableLabel o)
    {row : List Bool} (hrow : row ≠ []) :
    cleanLine (rowLineW S i o row) = cleanRowW S i o row := by
  rw [rowLineW, contentLine_eq (flagCellsW_ne_nil S i hrow)]
  have e : padCell (S.pads (i + 1) 0) o ++ barCells (flagCellsW S i row) =
      blanks (S.pads (i + 1) 0).1 ++ cleanRowW S i o row := by
    simp [padCell, cleanRowW]
  rw [e]
  apply clean_content
  · simp only [cleanRowW, List.mem_append, not_or]
    exact ⟨⟨ho.cellLike.hash, not_mem_blanks (by decide)⟩,
      not_mem_barCells (by decide) fun c hc => (flagCellsW_like S hS i row c hc).hash⟩
  · rw [cleanRowW, List.append_assoc, List.head?_append_of_ne_nil _ ho.trimmed.ne]
    exact ho.trimmed.head
  · rw [cleanRowW, List.getLast?_append_of_ne_nil _ (by simp [barCells])]
    exact barCells_last _
  · exact hS.2.1 _

theorem row_parse (S : TableStyle) (hS : S.Ok) (i : Nat) {o : Str} (ho : TableLabel o)
    {row : List Bool} (hrow : row ≠ []) :
    (let (obj, _, flags) := partitionChar '|' (cleanRowW S i o row);
      (strip obj, (splitChar '|' (stripBar flags)).map fun f => !(strip f).isEmpty)) = (o, row) := by
  have hbar : '|' ∉ o ++ blanks (S.pads (i + 1) 0).2 := by
    simp only [List.mem_append, not_or]
    exact ⟨ho.cellLike.bar, not_mem_blanks (by decide)⟩
  rw [cleanRowW, barCells, partitionChar_append_sep hbar]
  dsimp only
  rw [ho.trimmed.strip blanks_space, ← List.nil_append (joinWith _ _),
    split_cells (flagCellsW_ne_nil S i hrow) (flagCellsW_like S hS i row) [] (by simp),
    flagCellsW_decode S hS]

theorem not_mem_contentLine {indent : Nat} {cells : List Str} {tr : Str × Option Str}
    (hc : ∀ c ∈ cells, '\n' ∉ c) (htr : NoiseOk tr) : '\n' ∉ contentLine indent cells tr := by
  rw [contentLine]
  simp only [List.mem_append, not_or]
  exact ⟨⟨not_mem_blanks (by decide), not_mem_joinWith (by decide) hc, by decide⟩, not_mem_noiseLine htr⟩

theorem loadTable_dumpTableWith (S : TableStyle) (hS : S.Ok) {objects properties : List Str}
    {bools : List (List Bool)} (hr : Rect objects properties bools)
    (ho : ∀ o ∈ objects, TableLabel o) (hp : ∀ p ∈ properties, TableLabel p) :
    loadTable (dumpTableWith S objects properties bools) = .ok (objects, properties, bools) := by
  have hrow := hr.row_ne_nil
  obtain ⟨hone, hpne, hlen, -⟩ := hr
  obtain ⟨xs, rfl, rfl, hzip⟩ := exists_rows hlen
  rw [List.forall_mem_map] at ho hrow
  replace ho : ∀ x ∈ xs.zipIdx, TableLabel x.1.1 := fun x hx => ho _ (List.fst_mem_of_mem_zipIdx hx)
  replace hrow : ∀ x ∈ xs.zipIdx, x.1.2 ≠ [] := fun x hx => hrow _ (List.fst_mem_of_mem_zipIdx hx)
  have hnl : ∀ l ∈ tableLinesW S (xs.map (·.1)) properties (xs.map (·.2)), '\n' ∉ l := by
    intro l hl
    simp only [tableLinesW, hzip, List.mem_append, List.mem_map, List.mem_singleton,
      List.mem_flatMap] at hl
    rcases hl with ((⟨y, hy, rfl⟩ | rfl) | ⟨x, hx, ⟨y, hy, rfl⟩ | rfl⟩) | ⟨y, hy, rfl⟩
    · exact not_mem_noiseLine (hS.2.2 _ y hy)
    · apply not_mem_contentLine _ (hS.2.1 0)
      intro c hc
      rcases List.mem_cons.1 hc with rfl | hc
      · exact not_mem_blanks (by decide)
      · exact (headerCellsW_like S hp c hc).nl
    · exact not_mem_noiseLine (hS.2.2 _ y hy)
    · apply not_mem_contentLine _ (hS.2.1 _)
      intro c hc
      rcases List.mem_cons.1 hc with rfl | hc
      · exact (cellLike_padCell _ (ho x hx).cellLike).nl
      · exact (flagCellsW_like S hS _ _ c hc).nl
    · exact not_mem_noiseLine (hS.2.2 _ y hy)
  have hnoise : ∀ k, ∀ y ∈ (S.noise k).map noiseLine, ((!·.isEmpty) ∘ cleanLine) y = false := by
    intro k y hy
    obtain ⟨x, hx, rfl⟩ := List.mem_map.1 hy
    simp [clean_noise (hS.2.2 k x hx)]
  have hN : ∀ k, ((S.noise k).map noiseLine).filter ((!·.isEmpty) ∘ cleanLine) = [] := fun k =>
    List.filter_eq_nil_iff.2 fun y hy => Bool.eq_false_iff.1 (hnoise k y hy)
  have hH := clean_headerLineW S hS hpne hp
  have hclean : ∀ x ∈ xs.zipIdx,
      cleanLine (rowLineW S x.2 x.1.1 x.1.2) = cleanRowW S x.2 x.1.1 x.1.2 := fun x hx =>
    clean_rowLineW S hS x.2 (ho x hx) (hrow x hx)
  have hR := filter_flatMap_append_singleton ((!·.isEmpty) ∘ cleanLine) xs.zipIdx
    (fun x => (S.noise (x.2 + 1)).map noiseLine) (fun x => rowLineW S x.2 x.1.1 x.1.2)
    (fun x _ => hnoise _) (fun x hx => by simp [hclean x hx, cleanRowW, barCells])
  have hlines : ((splitChar '\n' (dumpTableWith S (xs.map (·.1)) properties (xs.map (·.2)))).map
      (fun l => strip (partitionChar '#' l).1)).filter (!·.isEmpty) =
      barCells (headerCellsW S properties) :: xs.zipIdx.map fun x => cleanRowW S x.2 x.1.1 x.1.2 := by
    change (List.map cleanLine _).filter _ = _
    rw [dumpTableWith, splitChar_joinWith (by simp [tableLinesW]) hnl, List.filter_map, tableLinesW, hzip]
    simp only [List.filter_append, hN, hR, List.nil_append, List.append_nil,
      List.filter_cons_of_pos (show ((!·.isEmpty) ∘ cleanLine) (headerLineW S properties) = true by
        simp [hH, barCells]), List.filter_nil, List.map_cons, hH, List.singleton_append,
      List.map_map]
    exact congrArg _ (List.map_congr_left hclean)
  have htable : (xs.zipIdx.map fun x => cleanRowW S x.2 x.1.1 x.1.2).map
      (fun objflags =>
        let (obj, _, flags) := partitionChar '|' objflags
        (strip obj, (splitChar '|' (stripBar flags)).map fun f => !(strip f).isEmpty)) = xs :=
    (map_map_of (h := Prod.fst) fun x hx => row_parse S hS x.2 (ho x hx) (hrow x hx)).trans
      (List.zipIdx_map_fst 0 xs)
  unfold loadTable
  simp only [hlines, htable, header_parse S hpne hp]
  rw [if_neg (by simpa using hone)]

end FCA
