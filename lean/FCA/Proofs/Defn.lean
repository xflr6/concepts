import FCA.Model.Defn
import FCA.Proofs.ListAux
namespace FCA

abbrev Cell := Name × Name

/-! ### `getItem`, `copy` -/

theorem getItem_of_mem {d : Defn} {o p : Name} (ho : o ∈ d.objs) (hp : p ∈ d.props) :
    d.getItem o p = .ok (d.pairs.contains (o, p)) := by
  rw [Defn.getItem, if_pos]
  rw [List.contains_iff_mem.mpr ho, List.contains_iff_mem.mpr hp]; rfl

theorem getItem_eq_of_iff {d e : Defn} {o p o' p' : Name} (h1 : o ∈ d.objs ↔ o' ∈ e.objs)
    (h2 : p ∈ d.props ↔ p' ∈ e.props) (h3 : (o, p) ∈ d.pairs ↔ (o', p') ∈ e.pairs) :
    d.getItem o p = e.getItem o' p' := by
  simp only [Defn.getItem, contains_eq_of_iff h1, contains_eq_of_iff h2, contains_eq_of_iff h3]

theorem copy_eq (d : Defn) : d.copy = d := rfl

/-! ### `uniq` -/

@[simp] theorem mem_uniq {x : Name} {l : List Name} : x ∈ uniq l ↔ x ∈ l := by
  induction l with
  | nil => simp [uniq]
  | cons y ys ih =>
    simp only [uniq, List.mem_cons, List.mem_filter, ih, bne_iff_ne]
    by_cases h : x = y <;> simp [h]

theorem nodup_uniq (l : List Name) : (uniq l).Nodup := by
  induction l with
  | nil => simp [uniq]
  | cons y ys ih =>
    simp only [uniq, List.nodup_cons, List.mem_filter, bne_iff_ne]
    exact ⟨fun h => h.2 rfl, ih.filter _⟩

theorem uniq_sublist (l : List Name) : (uniq l).Sublist l := by
  induction l with
  | nil => exact .slnil
  | cons y ys ih => exact (List.filter_sublist.trans ih).cons_cons y

theorem uniq_filter (p : Name → Bool) (l : List Name) : uniq (l.filter p) = (uniq l).filter p := by
  induction l with
  | nil => rfl
  | cons y ys ih =>
    by_cases h : p y = true
    · rw [List.filter_cons_of_pos h, uniq, uniq, List.filter_cons_of_pos h, ih, List.filter_comm]
    · rw [List.filter_cons_of_neg h, uniq, List.filter_cons_of_neg h, ih, List.filter_filter]
      -- an element that `p` keeps is not `y`
      exact List.filter_congr fun x _ => by
        by_cases hx : x = y
        · rw [hx, Bool.eq_false_iff.mpr h]; rfl
        · rw [bne_iff_ne.mpr hx, Bool.and_true]

theorem uniq_of_nodup {l : List Name} (h : l.Nodup) : uniq l = l := by
  induction l with
  | nil => simp [uniq]
  | cons y ys ih =>
    rw [List.nodup_cons] at h
    simp only [uniq, ih h.2]
    congr 1
    rw [List.filter_eq_self]
    intro x hx
    simp only [bne_iff_ne]
    rintro rfl
    exact h.1 hx

/-- the constructor's test `len(Unique(l)) == len(l)`: a sublist of full length is the list -/
theorem length_uniq_eq_iff {l : List Name} : (uniq l).length = l.length ↔ l.Nodup :=
  ⟨fun h => (uniq_sublist l).eq_of_length h ▸ nodup_uniq l, fun h => by rw [uniq_of_nodup h]⟩

/-! ### `uAdd`, `pAdd`, `uIor`, `uIand` -/

/-- `Unique.add` (`uAdd`), `set.add` on the cells (`pAdd`) and on `_seen` (`sAdd`) are this one function -/
theorem mem_addNew {α : Type} [BEq α] [LawfulBEq α] {l : List α} {x y : α} :
    y ∈ (if l.contains x then l else l ++ [x]) ↔ y ∈ l ∨ y = x := by
  by_cases h : x ∈ l
  · simp only [List.contains_eq_mem, h, decide_true, if_true, iff_self_or]
    rintro rfl; exact h
  · simp [h]

theorem nodup_addNew {α : Type} [BEq α] [LawfulBEq α] {l : List α} {x : α} (hl : l.Nodup) :
    (if l.contains x then l else l ++ [x]).Nodup := by
  by_cases h : x ∈ l
  · simpa [h] using hl
  · rw [if_neg (by simpa using h), ← List.concat_eq_append]
    exact hl.concat h

theorem mem_foldl_addNew {α : Type} [BEq α] [LawfulBEq α] {xs acc : List α} {y : α} :
    y ∈ xs.foldl (fun l x => if l.contains x then l else l ++ [x]) acc ↔ y ∈ acc ∨ y ∈ xs := by
  induction xs generalizing acc with
  | nil => simp
  | cons x xs ih => simp only [List.foldl_cons, ih, mem_addNew, List.mem_cons, or_assoc]

@[simp] theorem mem_uAdd {l : List Name} {x y : Name} : y ∈ uAdd l x ↔ y ∈ l ∨ y = x := mem_addNew

theorem nodup_uAdd {l : List Name} {x : Name} (h : l.Nodup) : (uAdd l x).Nodup := nodup_addNew h

@[simp] theorem mem_pAdd {ps : List Cell} {p q : Cell} : q ∈ pAdd ps p ↔ q ∈ ps ∨ q = p := mem_addNew

theorem nodup_pAdd {ps : List Cell} {p : Cell} (h : ps.Nodup) : (pAdd ps p).Nodup := nodup_addNew h

theorem uAdd_of_mem {l : List Name} {x : Name} (h : x ∈ l) : uAdd l x = l := by
  simp [uAdd, h]

theorem uAdd_of_not_mem {l : List Name} {x : Name} (h : x ∉ l) : uAdd l x = l ++ [x] := by
  simp [uAdd, h]

theorem uIor_eq (l xs : List Name) :
    uIor l xs = l ++ uniq (xs.filter (fun x => !l.contains x)) := by
  induction xs generalizing l with
  | nil => exact (List.append_nil l).symm
  | cons x xs ih =>
    show uIor (uAdd l x) xs = _
    rw [ih]
    by_cases hx : x ∈ l
    · rw [uAdd_of_mem hx, List.filter_cons_of_neg (by simpa using hx)]
    · -- filtering the rest by `!(l ++ [x]).contains` is filtering by `!l.contains` and then by `· != x`, which is
      -- what `uniq` does after `x`
      rw [uAdd_of_not_mem hx, List.filter_cons_of_pos (by simpa using hx), uniq, ← uniq_filter, List.filter_filter,
        List.append_assoc]
      refine congrArg (fun t => l ++ x :: uniq t) (List.filter_congr fun y _ => ?_)
      rw [List.contains_append, Bool.not_or, List.contains_cons, List.contains_nil, Bool.or_false, Bool.and_comm]; rfl

@[simp] theorem mem_uIor {l xs : List Name} {y : Name} : y ∈ uIor l xs ↔ y ∈ l ∨ y ∈ xs := mem_foldl_addNew

theorem nodup_uIor {l xs : List Name} (h : l.Nodup) : (uIor l xs).Nodup :=
  List.foldlRecOn xs uAdd h fun _ hb _ _ => nodup_uAdd hb

@[simp] theorem mem_uIand {l xs : List Name} {y : Name} : y ∈ uIand l xs ↔ y ∈ l ∧ y ∈ xs := by
  simp [uIand]

theorem nodup_uIand {l xs : List Name} (h : l.Nodup) : (uIand l xs).Nodup := h.filter _

/-! ### `uReplace` -/

theorem uReplace_eq (l : List Name) (old new : Name) :
    uReplace l old new =
      if new ∈ l ∨ old ∉ l then .error .valueError else .ok (l.map fun x => if x == old then new else x) := by
  unfold uReplace
  by_cases hn : new ∈ l <;> by_cases ho : old ∈ l <;> simp [hn, ho]

theorem mem_replace {l : List Name} {old new y : Name} :
    y ∈ (l.map fun x => if x == old then new else x) ↔ (y ∈ l ∧ y ≠ old) ∨ (y = new ∧ old ∈ l) := by
  rw [mem_map_ite (P := (· == old)), beq_eq_false_iff_ne]
  exact or_congr_right ⟨fun ⟨c, hc, e, hy⟩ => ⟨hy.symm, beq_iff_eq.mp e ▸ hc⟩,
    fun ⟨hy, ho⟩ => ⟨old, ho, beq_self_eq_true old, hy.symm⟩⟩

theorem nodup_replace {l : List Name} {old new : Name} (h : l.Nodup) (hn : new ∉ l) :
    (l.map fun x => if x == old then new else x).Nodup := by
  refine List.Nodup.map_on (fun x hx y hy hxy => ?_) h
  by_cases h1 : x = old <;> by_cases h2 : y = old
  · rw [h1, h2]
  · rw [if_pos (beq_iff_eq.mpr h1), if_neg (by rwa [beq_iff_eq])] at hxy; exact absurd (hxy ▸ hy) hn
  · rw [if_neg (by rwa [beq_iff_eq]), if_pos (beq_iff_eq.mpr h2)] at hxy; exact absurd (hxy ▸ hx) hn
  · rwa [if_neg (by rwa [beq_iff_eq]), if_neg (by rwa [beq_iff_eq])] at hxy

theorem idxOf_replace {l : List Name} {old new : Name} (hn : new ∉ l) :
    (l.map fun x => if x == old then new else x).idxOf new = l.idxOf old := by
  induction l with
  | nil => rfl
  | cons x xs ih =>
    rw [List.map_cons, List.idxOf_cons, List.idxOf_cons]
    by_cases hx : x = old
    · rw [hx, beq_self_eq_true, if_pos rfl, beq_self_eq_true]; rfl
    · have hx' : x ≠ new := fun e => hn (e ▸ List.mem_cons_self)
      rw [if_neg (by rwa [beq_iff_eq]), beq_eq_false_iff_ne.mpr hx', beq_eq_false_iff_ne.mpr hx, cond_false, cond_false,
        ih fun e => hn (List.mem_cons_of_mem _ e)]

/-! ### `uMove` -/

theorem pyInsert_perm (l : List Name) (i : Int) (x : Name) : (pyInsert l i x).Perm (x :: l) := by
  unfold pyInsert
  simp only [List.append_assoc, List.singleton_append]
  refine List.perm_middle.trans ?_
  rw [List.take_append_drop]

theorem findIdx?_beq (l : List Name) (a : Name) :
    l.findIdx? (· == a) = if a ∈ l then some (l.idxOf a) else none := by
  by_cases h : a ∈ l
  · rw [if_pos h, List.findIdx?_eq_some_iff_findIdx_eq]; exact ⟨List.idxOf_lt_length_of_mem h, rfl⟩
  · rw [if_neg h, List.findIdx?_eq_none_iff]; exact fun x hx => by simpa using fun (e : x = a) => h (e ▸ hx)

/-- `list.index` is the first position (`idxOf`), `pop` there is `erase` -/
theorem uMove_eq (l : List Name) (x : Name) (i : Int) :
    uMove l x i =
      if x ∈ l then .ok (if (l.idxOf x : Int) = i then l else pyInsert (l.erase x) i x)
      else .error .valueError := by
  rw [uMove, findIdx?_beq]
  by_cases h : x ∈ l
  · rw [if_pos h, if_pos h, List.erase_eq_eraseIdx_of_idxOf rfl]; exact (apply_ite Except.ok _ _ _).symm
  · rw [if_neg h, if_neg h]

theorem uMove_eq_ok_iff {l l' : List Name} {x : Name} {i : Int} :
    uMove l x i = .ok l' ↔ x ∈ l ∧ l' = if (l.idxOf x : Int) = i then l else pyInsert (l.erase x) i x :=
  uMove_eq l x i ▸ ite_ok_eq_ok_iff

theorem uMove_mem {l l' : List Name} {x : Name} {i : Int} (h : uMove l x i = .ok l') : x ∈ l :=
  (uMove_eq_ok_iff.mp h).1

theorem uMove_perm {l l' : List Name} {x : Name} {i : Int} (h : uMove l x i = .ok l') : l'.Perm l := by
  obtain ⟨hx, rfl⟩ := uMove_eq_ok_iff.mp h
  split
  · rfl
  · exact (pyInsert_perm _ _ _).trans (List.perm_cons_erase hx).symm

/-- Python's index clamping of `list.insert` -/
def clampIdx (len : Nat) (i : Int) : Nat :=
  (if i < 0 then (if i + (len : Int) < 0 then 0 else i + len) else (if i > (len : Int) then (len : Int) else i)).toNat

theorem pyInsert_eq (l : List Name) (i : Int) (x : Name) :
    pyInsert l i x = l.take (clampIdx l.length i) ++ x :: l.drop (clampIdx l.length i) := by
  simp [pyInsert, clampIdx]

theorem uMove_spec {l l' : List Name} {x : Name} {i : Int} (hn : l.Nodup) (h : uMove l x i = .ok l') :
    (l' = l ∧ ∃ idx : Nat, l[idx]? = some x ∧ (idx : Int) = i) ∨
    (l' = (l.filter (· != x)).take (clampIdx (l.length - 1) i) ++
           x :: (l.filter (· != x)).drop (clampIdx (l.length - 1) i) ∧
     ∀ idx : Nat, l[idx]? = some x → (idx : Int) ≠ i) := by
  obtain ⟨hx, rfl⟩ := uMove_eq_ok_iff.mp h
  split
  · rename_i hi
    exact Or.inl ⟨rfl, _, List.getElem?_idxOf hx, hi⟩
  · rename_i hi
    refine Or.inr ⟨?_, fun j hj hji => hi ?_⟩
    · rw [pyInsert_eq, List.length_erase_of_mem hx, hn.erase_eq_filter]
    · obtain ⟨hj, rfl⟩ := List.getElem?_eq_some_iff.mp hj
      rwa [hn.idxOf_getElem]

theorem uMove_filter {l l' : List Name} {x : Name} {i : Int} (h : uMove l x i = .ok l') :
    l'.filter (· != x) = l.filter (· != x) := by
  obtain ⟨_, rfl⟩ := uMove_eq_ok_iff.mp h
  split
  · rfl
  · rw [pyInsert_eq, List.filter_append, List.filter_cons, if_neg (by simp), ← List.filter_append,
      List.take_append_drop, ← List.erase_filter, List.erase_of_not_mem (by simp)]

/-! ### the cell list: `pDiscard`, the loops of `add_object` and `set_object` -/

@[simp] theorem mem_pDiscard {ps : List Cell} {p q : Cell} : q ∈ pDiscard ps p ↔ q ∈ ps ∧ q ≠ p := by
  simp [pDiscard]

theorem nodup_pDiscard {ps : List Cell} {p : Cell} (h : ps.Nodup) : (pDiscard ps p).Nodup :=
  h.filter _

theorem mem_foldl_pAdd {xs acc : List Cell} {q : Cell} :
    q ∈ xs.foldl pAdd acc ↔ q ∈ acc ∨ q ∈ xs := mem_foldl_addNew

/-- the loop of `add_object` is `pairs |= {(o, p) for p in xs}` -/
theorem mem_foldl_pAdd_row {o : Name} {xs : List Name} {acc : List Cell} {q : Cell} :
    q ∈ xs.foldl (fun acc p => pAdd acc (o, p)) acc ↔ q ∈ acc ∨ (q.1 = o ∧ q.2 ∈ xs) := by
  rw [← List.foldl_map (f := fun p => (o, p)) (g := pAdd), mem_foldl_pAdd, List.mem_map]
  obtain ⟨a, b⟩ := q
  simp only [Prod.mk.injEq]
  constructor
  · rintro (h | ⟨p, hp, rfl, rfl⟩)
    · exact Or.inl h
    · exact Or.inr ⟨rfl, hp⟩
  · rintro (h | ⟨rfl, hp⟩)
    · exact Or.inl h
    · exact Or.inr ⟨b, hp, rfl, rfl⟩

theorem mem_setCell {ps : List Cell} {c q : Cell} {v : Bool} :
    q ∈ (if v then pAdd ps c else pDiscard ps c) ↔ if q = c then v = true else q ∈ ps := by
  by_cases h : q = c <;> cases v <;> simp [h]

theorem mem_foldl_setRow {o : Name} {ps L : List Name} {acc : List Cell} {q : Cell} :
    q ∈ L.foldl (fun acc p => if ps.contains p then pAdd acc (o, p) else pDiscard acc (o, p)) acc ↔
      if q.1 = o ∧ q.2 ∈ L then q.2 ∈ ps else q ∈ acc := by
  induction L generalizing acc with
  | nil => simp
  | cons x L ih =>
    rw [List.foldl_cons, ih, mem_setCell]
    obtain ⟨a, b⟩ := q
    by_cases hL : a = o ∧ b ∈ L
    · rw [if_pos hL, if_pos ⟨hL.1, List.mem_cons_of_mem _ hL.2⟩]
    · rw [if_neg hL]
      by_cases hx : (a, b) = (o, x)
      · cases hx; rw [if_pos rfl, if_pos ⟨rfl, List.mem_cons_self⟩, List.contains_iff_mem]
      · rw [if_neg hx, if_neg]
        rintro ⟨rfl, hb⟩
        exact (List.mem_cons.mp hb).elim (fun e => hx (e ▸ rfl)) fun hb => hL ⟨rfl, hb⟩

/-! ### cell lists written as comprehensions -/

/-- `{(o, p) for o in os for p in ps if c}` of `take`, `inverted`, `conflicting_pairs` and (through `bools`) the constructor -/
theorem comprehension_eq_filter_product (os ps : List Name) (c : Name → Name → Bool) :
    (os.flatMap fun o => ps.filterMap fun p => if c o p then some (o, p) else none) =
      (os.product ps).filter fun q => c q.1 q.2 := by
  rw [List.product, List.filter_flatMap]
  exact List.flatMap_congr fun o _ => by rw [List.filter_map, ← map_filter_eq_filterMap]; rfl

theorem mem_comprehension {os ps : List Name} {c : Name → Name → Bool} {o p : Name} :
    (o, p) ∈ (os.flatMap fun o => ps.filterMap fun p => if c o p then some (o, p) else none) ↔
      o ∈ os ∧ p ∈ ps ∧ c o p = true := by
  rw [comprehension_eq_filter_product, List.mem_filter, List.pair_mem_product, and_assoc]

theorem nodup_comprehension {os ps : List Name} (c : Name → Name → Bool) (ho : os.Nodup) (hp : ps.Nodup) :
    (os.flatMap fun o => ps.filterMap fun p => if c o p then some (o, p) else none).Nodup := by
  rw [comprehension_eq_filter_product]; exact (ho.product hp).filter _

/-! ### conflicting cells -/

def Conflict (d e : Defn) : Prop :=
  ∃ o p, o ∈ d.objs ∧ o ∈ e.objs ∧ p ∈ d.props ∧ p ∈ e.props ∧ ¬((o, p) ∈ d.pairs ↔ (o, p) ∈ e.pairs)

theorem mem_conflicts {d e : Defn} {o p : Name} :
    (o, p) ∈ conflicts d e ↔
      o ∈ d.objs ∧ o ∈ e.objs ∧ p ∈ d.props ∧ p ∈ e.props ∧ ¬((o, p) ∈ d.pairs ↔ (o, p) ∈ e.pairs) := by
  rw [conflicts, mem_comprehension, List.mem_filter, List.mem_filter, bne_iff_ne, Ne,
    Bool.eq_iff_iff (a := d.pairs.contains (o, p))]
  simp only [List.contains_iff_mem]
  exact ⟨fun ⟨⟨a, b⟩, ⟨c, d⟩, h⟩ => ⟨b, a, d, c, h⟩, fun ⟨b, a, d, c, h⟩ => ⟨⟨a, b⟩, ⟨c, d⟩, h⟩⟩

theorem conflicts_nonempty_iff {d e : Defn} : (conflicts d e).isEmpty = false ↔ Conflict d e := by
  rw [List.isEmpty_eq_false_iff_exists_mem]
  constructor
  · rintro ⟨⟨o, p⟩, h⟩; exact ⟨o, p, mem_conflicts.mp h⟩
  · rintro ⟨o, p, h⟩; exact ⟨(o, p), mem_conflicts.mpr h⟩

/-- the guard of `union` / `intersection` and their in-place versions -/
theorem conflictGuard_iff {d e : Defn} {ig : Bool} :
    (!ig && !(conflicts d e).isEmpty) = true ↔ ig = false ∧ Conflict d e := by
  rw [← conflicts_nonempty_iff]
  cases ig <;> simp

end FCA
