import FCA.Model.Lattice
import FCA.Proofs.ListAux
/-
`Lattice.__init__` / `_init` of the model (`assemble`, `mkLattice`): concept number `k` is built from
record number `k`; neighbor references become positions (`toIndexes`), sorted by the key of their extents.
-/
namespace FCA

/-- the concept built from record `r` at position `k` -/
def mkConcept (K : Ctx) (recs : List Rec) (k : Nat) (r : Rec) : LConcept :=
  let extents := recs.map (·.extent)
  let slKey := fun i => shortlexKey K.n (extents.getD i 0)
  let llKey := fun i => longlexKey K.n (extents.getD i 0)
  let dorder := sortBy llKey (List.range recs.length)
  let uppers := recs.map fun r => sortBy slKey (toIndexes extents r.upper)
  let atoms := uppers.headD []
  { extent := r.extent, intent := r.intent
    upper := uppers.getD k []
    lower := sortBy llKey (toIndexes extents r.lower)
    index := k
    dindex := (indexOf? k dorder).getD 0
    atoms := atoms.filter fun a => r.extent ||| extents.getD a 0 == r.extent
    objects := objectLabels K r.extent
    properties := propertyLabels K r.extent }

theorem assemble_eq (K : Ctx) (recs : List Rec) :
    assemble K recs = recs.zipIdx.map (fun p => mkConcept K recs p.2 p.1) := by
  rw [← filterMap_range_eq_zipIdx_map]
  unfold assemble
  simp only
  congr 1
  funext k
  cases recs[k]? <;> rfl

theorem assemble_length (K : Ctx) (recs : List Rec) : (assemble K recs).length = recs.length := by
  rw [assemble_eq]; simp

theorem assemble_get (K : Ctx) (recs : List Rec) (k : Nat) :
    (assemble K recs)[k]? = (recs[k]?).map (mkConcept K recs k) := by
  rw [assemble_eq, List.getElem?_map, List.getElem?_zipIdx]
  cases recs[k]? <;> simp

theorem assemble_map {β : Type} (K : Ctx) (recs : List Rec) (f : LConcept → β) (g : Rec → β)
    (h : ∀ k r, f (mkConcept K recs k r) = g r) : (assemble K recs).map f = recs.map g := by
  refine List.ext_getElem? fun k => ?_
  rw [List.getElem?_map, assemble_get, List.getElem?_map, Option.map_map]
  exact Option.map_congr fun r _ => h k r

theorem assemble_extents (K : Ctx) (recs : List Rec) :
    (assemble K recs).map (·.extent) = recs.map (·.extent) :=
  assemble_map K recs _ _ fun _ _ => rfl

theorem assemble_pairs (K : Ctx) (recs : List Rec) :
    (assemble K recs).map (fun c => (c.extent, c.intent)) = recs.map (fun r => (r.extent, r.intent)) :=
  assemble_map K recs _ _ fun _ _ => rfl

theorem assemble_get_some {K : Ctx} {recs : List Rec} {k : Nat} {c : LConcept}
    (h : (assemble K recs)[k]? = some c) : ∃ r, recs[k]? = some r ∧ r ∈ recs ∧ c = mkConcept K recs k r := by
  rw [assemble_get] at h
  obtain ⟨r, hr, rfl⟩ := Option.map_eq_some_iff.mp h
  exact ⟨r, hr, List.mem_of_getElem? hr, rfl⟩

theorem mkConcept_upper {K : Ctx} {recs : List Rec} {k : Nat} {r : Rec} (hr : recs[k]? = some r) :
    (mkConcept K recs k r).upper =
      sortBy (fun i => shortlexKey K.n ((recs.map (·.extent)).getD i 0)) (toIndexes (recs.map (·.extent)) r.upper) := by
  show List.getD (recs.map _) k [] = _
  rw [List.getD_eq_getElem?_getD, List.getElem?_map, hr]; rfl

-- rewrite with this: `show` / `rfl` across `mkConcept` unfolds `sortBy` (a second of `isDefEq`)
theorem mkConcept_lower (K : Ctx) (recs : List Rec) (k : Nat) (r : Rec) :
    (mkConcept K recs k r).lower =
      sortBy (fun i => longlexKey K.n ((recs.map (·.extent)).getD i 0)) (toIndexes (recs.map (·.extent)) r.lower) := rfl

theorem assemble_upperAt0 (K : Ctx) (recs : List Rec) :
    (assemble K recs).upperAt 0 =
      (recs.map fun r => sortBy (fun i => shortlexKey K.n ((recs.map (·.extent)).getD i 0))
        (toIndexes (recs.map (·.extent)) r.upper)).headD [] := by
  unfold Lattice.upperAt
  rw [assemble_get]
  cases recs <;> rfl

theorem mem_toIndexes {E xs : List Nat} (hnd : E.Nodup) (j : Nat) :
    j ∈ toIndexes E xs ↔ ∃ d, E[j]? = some d ∧ d ∈ xs := by
  unfold toIndexes extentIndex
  rw [List.mem_filterMap]
  constructor
  · rintro ⟨d, hd, hj⟩; exact ⟨d, indexOf?_some_get hj, hd⟩
  · rintro ⟨d, hj, hd⟩; exact ⟨d, hd, indexOf?_get_nodup hnd hj⟩

theorem toIndexes_nodup {E xs : List Nat} (hxs : xs.Nodup) : (toIndexes E xs).Nodup := by
  unfold toIndexes extentIndex
  refine List.Nodup.filterMap ?_ hxs
  intro a a' b hb hb'
  exact Option.some.inj ((indexOf?_some_get (Option.mem_def.mp hb)).symm.trans (indexOf?_some_get (Option.mem_def.mp hb')))

theorem toIndexes_lt {E xs : List Nat} {j : Nat} (h : j ∈ toIndexes E xs) : j < E.length := by
  unfold toIndexes extentIndex at h
  obtain ⟨d, _, hj⟩ := List.mem_filterMap.mp h
  exact indexOf?_some_lt hj

/-- `upper_neighbors` with the shortlex key, `lower_neighbors` with the longlex key -/
theorem sortedIndexes {E xs : List Nat} {κ : Nat → Nat} (hnd : E.Nodup) (hxs : xs.Nodup)
    (hκ : ∀ a ∈ E, ∀ b ∈ E, κ a = κ b → a = b) :
    (sortBy (fun i => κ (E.getD i 0)) (toIndexes E xs)).Pairwise (fun a b => κ (E.getD a 0) < κ (E.getD b 0)) := by
  refine sortBy_strict _ (toIndexes_nodup hxs) fun a ha b hb hab => ?_
  have ha' := get_of_lt (toIndexes_lt ha)
  have hb' := get_of_lt (toIndexes_lt hb)
  rw [hκ _ (List.mem_of_getElem? ha') _ (List.mem_of_getElem? hb') hab] at ha'
  exact pos_inj hnd ha' hb'

end FCA
