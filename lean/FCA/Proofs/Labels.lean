import FCA.Proofs.LatticeSpec
/-
Reduced labelling (`Lattice._annotate`): one notion of labelling (`C10.Labelling`) that serves objects and properties
alike in a lattice satisfying `LatticeSpec`, and the imperative append-or-create loop of `_annotate`.
-/
namespace FCA.C10

theorem countP_eq_one_of_nodup {α : Type} [DecidableEq α] {l : List α} (hnd : l.Nodup) {a : α} (ha : a ∈ l) :
    l.countP (fun x => decide (x = a)) = 1 :=
  List.count_eq_one_of_mem hnd ha

theorem countP_eq_zero_of_not_mem {α : Type} [DecidableEq α] {l : List α} {a : α} (ha : a ∉ l) :
    l.countP (fun x => decide (x = a)) = 0 :=
  List.count_eq_zero_of_not_mem ha

/-! ### one kind of label

`Lattice._annotate` treats objects and properties alike: every `x < w` labels the concept whose extent is `g x`
(`o ↦ {o}''`, `p ↦ {p}'`), and the field `f` of a concept lists its labels in ascending order. -/

structure Labelling (K : Ctx) (L : Lattice) (w : Nat) (g : Nat → Nat) (f : LConcept → List Nat) : Prop where
  spec : LatticeSpec K L
  closed : ∀ x, x < w → closedObj K (g x)
  eq : ∀ c ∈ L, f c = (List.range w).filter fun x => g x == c.extent

section spec
variable {K : Ctx} {L : Lattice}

theorem objects_labelling (S : LatticeSpec K L) :
    Labelling K L K.n (fun o => K.doubleObj (2 ^ o)) (·.objects) :=
  ⟨S, fun o _ => objConcept_closed S.wf o, fun _ hc => S.objects (S.get_index hc)⟩

theorem properties_labelling (S : LatticeSpec K L) :
    Labelling K L K.m (fun p => K.extentOf (2 ^ p)) (·.properties) :=
  ⟨S, fun _ hp => attrConcept_closed S.wf hp, fun _ hc => S.properties (S.get_index hc)⟩

namespace Labelling
variable {w : Nat} {g : Nat → Nat} {f : LConcept → List Nat} (H : Labelling K L w g f)
include H

theorem mem {c : LConcept} (hc : c ∈ L) {x : Nat} : x ∈ f c ↔ x < w ∧ c.extent = g x := by
  rw [H.eq c hc, List.mem_filter, List.mem_range, beq_iff_eq, eq_comm]

theorem sorted {c : LConcept} (hc : c ∈ L) : (f c).Pairwise (· < ·) :=
  H.eq c hc ▸ List.Pairwise.filter _ List.pairwise_lt_range

theorem unique {x : Nat} (hx : x < w) : ∃! c, c ∈ L ∧ x ∈ f c := by
  have S := H.spec
  obtain ⟨c, hc, he⟩ := S.exists_of_closed (H.closed x hx)
  refine ⟨c, ⟨hc, (H.mem hc).mpr ⟨hx, he⟩⟩, ?_⟩
  rintro d ⟨hd, hxd⟩
  exact S.eq_of_extent_eq hd hc (((H.mem hd).mp hxd).2.trans he.symm)

theorem count {x : Nat} (hx : x < w) : L.countP (fun c => decide (x ∈ f c)) = 1 := by
  have S := H.spec
  rw [← countP_eq_one_of_nodup S.nodup ((S.mem _).mpr (H.closed x hx)), List.countP_map]
  refine List.countP_congr fun c hc => ?_
  simp only [decide_eq_true_eq, Function.comp_apply, H.mem hc, hx, true_and]

theorem partition : (L.flatMap f).Perm (List.range w) := by
  rw [List.perm_ext_iff_of_nodup ?_ List.nodup_range]
  · intro x
    rw [List.mem_flatMap, List.mem_range]
    constructor
    · rintro ⟨c, hc, hx⟩; exact ((H.mem hc).mp hx).1
    · intro hx
      obtain ⟨c, hc, _⟩ := H.unique hx
      exact ⟨c, hc⟩
  · rw [List.nodup_flatMap]
    refine ⟨fun c hc => (H.sorted hc).imp Nat.ne_of_lt, ?_⟩
    have hne : L.Pairwise (fun c d => c.extent ≠ d.extent) := List.pairwise_map.mp H.spec.nodup
    refine hne.imp_of_mem fun {c d} hc hd hne x h1 h2 => ?_
    exact hne (((H.mem hc).mp h1).2.trans ((H.mem hd).mp h2).2.symm)

theorem exists_iff (r : Nat → Prop) {x : Nat} : (∃ d ∈ L, r d.extent ∧ x ∈ f d) ↔ x < w ∧ r (g x) := by
  constructor
  · rintro ⟨d, hd, hr, hx⟩
    obtain ⟨hxw, he⟩ := (H.mem hd).mp hx
    exact ⟨hxw, he ▸ hr⟩
  · rintro ⟨hx, hr⟩
    obtain ⟨d, hd, he⟩ := H.spec.exists_of_closed (H.closed x hx)
    exact ⟨d, hd, he ▸ hr, (H.mem hd).mpr ⟨hx, he⟩⟩

end Labelling

/-- extent = union of the object labels in the downset -/
theorem extent_from_labels (S : LatticeSpec K L) {c : LConcept} (hc : c ∈ L) (i : Nat) :
    i ∈ᵇ c.extent ↔ ∃ d ∈ L, d.extent ⊆ᵇ c.extent ∧ i ∈ d.objects := by
  have hcl := S.closed_of_mem hc
  rw [(objects_labelling S).exists_iff (· ⊆ᵇ c.extent)]
  exact ⟨fun hi => ⟨hcl.1 i hi, (objConcept_sub_iff S.wf (hcl.1 i hi) hcl).mpr hi⟩,
    fun ⟨hin, hs⟩ => (objConcept_sub_iff S.wf hin hcl).mp hs⟩

/-- intent = union of the property labels in the upset -/
theorem intent_from_labels (S : LatticeSpec K L) {c : LConcept} (hc : c ∈ L) (j : Nat) :
    j ∈ᵇ c.intent ↔ ∃ d ∈ L, c.extent ⊆ᵇ d.extent ∧ j ∈ d.properties := by
  rw [(properties_labelling S).exists_iff (c.extent ⊆ᵇ ·), S.intent_of_mem hc]
  exact ⟨fun hj => ⟨bounded_intentOf _ j hj, (sub_attrConcept_iff S.wf (bounded_intentOf _ j hj)).mpr hj⟩,
    fun ⟨hjm, hs⟩ => (sub_attrConcept_iff S.wf hjm).mp hs⟩

end spec

/-- labels built so far (by position of the concept) and the concepts `touched`, most recent first -/
structure AnnState where
  label : Nat → List Nat
  touched : List Nat

/-- one iteration of `for o in context.objects:` — `target o` is `mapping[extent]` -/
def annotateStep (target : Nat → Option Nat) (s : AnnState) (o : Nat) : AnnState :=
  match target o with
  | none => s
  | some k =>
    if (s.label k).isEmpty then ⟨Function.update s.label k [o], k :: s.touched⟩
    else ⟨Function.update s.label k (s.label k ++ [o]), s.touched⟩

def annotateLoop (target : Nat → Option Nat) (items : List Nat) : AnnState :=
  items.foldl (annotateStep target) ⟨fun _ => [], []⟩

/-- `for c in touched: c.objects = tuple(c.objects)` in the enumeration order `order` of the set -/
def tupleize (order : List Nat) (label : Nat → List Nat) : Nat → List Nat :=
  order.foldl (fun lab k => Function.update lab k (lab k)) label

theorem tupleize_eq (order : List Nat) (label : Nat → List Nat) : tupleize order label = label := by
  unfold tupleize
  induction order generalizing label with
  | nil => rfl
  | cons a t ih => rw [List.foldl_cons, Function.update_eq_self, ih]

theorem annotateStep_spec (target : Nat → Option Nat) (s : AnnState) (o : Nat)
    (hs : ∀ k, k ∈ s.touched ↔ s.label k ≠ []) (k : Nat) :
    (annotateStep target s o).label k = s.label k ++ (if target o = some k then [o] else []) ∧
    (k ∈ (annotateStep target s o).touched ↔ (annotateStep target s o).label k ≠ []) := by
  unfold annotateStep
  cases target o with
  | none => simpa using hs k
  | some k' =>
    by_cases he : s.label k' = [] <;> by_cases hk : k' = k
    · subst hk; simp [he]
    · simp [he, hk, Ne.symm hk, hs k]
    · subst hk; simp [he, hs k']
    · simp [he, hk, Ne.symm hk, hs k]

theorem annotateLoop_spec (target : Nat → Option Nat) (items : List Nat) (k : Nat) :
    (annotateLoop target items).label k = items.filter (fun o => target o == some k) ∧
    (k ∈ (annotateLoop target items).touched ↔ (annotateLoop target items).label k ≠ []) := by
  have : ∀ s : AnnState, (∀ k, k ∈ s.touched ↔ s.label k ≠ []) →
      (items.foldl (annotateStep target) s).label k = s.label k ++ items.filter (fun o => target o == some k) ∧
      (k ∈ (items.foldl (annotateStep target) s).touched ↔ (items.foldl (annotateStep target) s).label k ≠ []) := by
    induction items with
    | nil => exact fun s hs => ⟨by simp, hs k⟩
    | cons o t ih =>
      intro s hs
      obtain ⟨h1, h2⟩ := ih _ fun k => (annotateStep_spec target s o hs k).2
      refine ⟨?_, h2⟩
      rw [List.foldl_cons, h1, (annotateStep_spec target s o hs k).1, List.filter_cons]
      by_cases h : target o = some k <;> simp [h]
  exact this ⟨fun _ => [], []⟩ fun k => by simp

theorem Labelling.annotate {K : Ctx} {L : Lattice} {w : Nat} {g : Nat → Nat} {f : LConcept → List Nat}
    (H : Labelling K L w g f) {k : Nat} {c : LConcept} (hc : L[k]? = some c) :
    let st := annotateLoop (fun x => L.find (g x)) (List.range w)
    (∀ order : List Nat, tupleize order st.label k = f c) ∧ (k ∈ st.touched ↔ f c ≠ []) := by
  have hl : (annotateLoop (fun x => L.find (g x)) (List.range w)).label k = f c := by
    rw [(annotateLoop_spec _ _ k).1, H.eq c (List.mem_of_getElem? hc)]
    refine List.filter_congr fun x _ => ?_
    rw [Bool.eq_iff_iff, beq_iff_eq, beq_iff_eq, H.spec.find_iff, H.spec.extent_get hc, Option.some.injEq, eq_comm]
  exact ⟨fun order => by rw [tupleize_eq]; exact hl, by rw [(annotateLoop_spec _ _ k).2, hl]⟩

end FCA.C10
