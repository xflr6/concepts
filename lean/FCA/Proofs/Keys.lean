import FCA.Proofs.Members
import Mathlib.Data.Nat.Bitwise
/-
`reinv` and the numeric sort keys `shortlexKey` / `longlexKey`: comparing keys is comparing by the
documented orders `shortlexLt` / `longlexLt`.
-/
namespace FCA

/-- the mirror `i ↦ w - 1 - i` of the positions below `w` is an involution -/
theorem mirror_mirror {w i : Nat} (hi : i < w) : w - 1 - (w - 1 - i) = i :=
  Nat.sub_sub_self (Nat.le_sub_one_of_lt hi)

theorem mem_reinv {w s x : Nat} : x ∈ᵇ reinv w s ↔ x < w ∧ ¬ (w - 1 - x) ∈ᵇ s := by
  unfold reinv
  rw [mem_foldl_of_step (P := fun k i => ¬ s.testBit k = true ∧ i = w - 1 - k) fun acc k i => by
    split
    · next h => exact (or_iff_left fun h' => h'.1 h).symm
    · next h => exact mem_or.trans (or_congr_right (mem_pow.trans (and_iff_right h).symm))]
  simp only [not_mem_zero, false_or, List.mem_range]
  constructor
  · rintro ⟨i, hi, h1, rfl⟩
    exact ⟨Nat.sub_one_sub_lt_of_lt hi, by rwa [mirror_mirror hi]⟩
  · rintro ⟨h1, h2⟩
    exact ⟨w - 1 - x, Nat.sub_one_sub_lt_of_lt h1, h2, (mirror_mirror h1).symm⟩

theorem reinv_lt (w s : Nat) : reinv w s < 2 ^ w :=
  bounded_iff_lt.mp (fun _ hx => (mem_reinv.mp hx).1)

theorem mem_reinv_mirror {w s i : Nat} (hi : i < w) : (w - 1 - i) ∈ᵇ reinv w s ↔ ¬ i ∈ᵇ s := by
  rw [mem_reinv, mirror_mirror hi]
  exact and_iff_right (Nat.sub_one_sub_lt_of_lt hi)

/-- the mirrored first difference is the highest differing bit, and it is set in `reinv w b` -/
theorem reinv_lt_of_lexLt {w a b : Nat} (ha : Bounded w a) (h : lexLt a b) : reinv w a < reinv w b := by
  obtain ⟨i, hia, hib, hlow⟩ := h
  have hi := ha i hia
  apply Nat.lt_of_testBit (w - 1 - i)
  · exact Bool.eq_false_iff.mpr fun h => (mem_reinv_mirror hi).mp h hia
  · exact (mem_reinv_mirror hi).mpr hib
  · intro j hj
    apply Bool.eq_iff_iff.mpr
    show j ∈ᵇ reinv w a ↔ j ∈ᵇ reinv w b
    rw [mem_reinv, mem_reinv]
    exact and_congr_right fun hjw => not_congr (hlow (w - 1 - j) (by omega))

theorem reinv_lt_iff {w a b : Nat} (ha : Bounded w a) (hb : Bounded w b) :
    reinv w a < reinv w b ↔ lexLt a b := by
  refine ⟨fun hlt => ?_, reinv_lt_of_lexLt ha⟩
  rcases lexLt_total (a := a) (b := b) (by rintro rfl; exact lt_irrefl _ hlt) with h | h
  · exact h
  · exact absurd (reinv_lt_of_lexLt hb h) (lt_asymm hlt)

theorem reinv_inj {w a b : Nat} (ha : Bounded w a) (hb : Bounded w b) (h : reinv w a = reinv w b) : a = b := by
  by_contra hne
  rcases lexLt_total hne with hl | hl
  · exact (reinv_lt_of_lexLt ha hl).ne h
  · exact (reinv_lt_of_lexLt hb hl).ne' h

/-- lexicographic comparison of `(c, r)` pairs packed as `c * p + r` -/
theorem lex_lt_iff {p c c' r r' : Nat} (hr : r < p) (hr' : r' < p) :
    c * p + r < c' * p + r' ↔ c < c' ∨ (c = c' ∧ r < r') := by
  have key : ∀ {c c' r r' : Nat}, r < p → c < c' → c * p + r < c' * p + r' := fun {c c' r r'} hr h =>
    calc c * p + r < c * p + p := Nat.add_lt_add_left hr _
      _ = (c + 1) * p := (Nat.succ_mul c p).symm
      _ ≤ c' * p := Nat.mul_le_mul_right p h
      _ ≤ c' * p + r' := Nat.le_add_right _ _
  rcases Nat.lt_trichotomy c c' with h | rfl | h
  · exact ⟨fun _ => Or.inl h, fun _ => key hr h⟩
  · rw [Nat.add_lt_add_iff_left]
    exact ⟨fun h => Or.inr ⟨rfl, h⟩, fun h => h.elim (fun h => absurd h (lt_irrefl _)) And.right⟩
  · exact ⟨fun h' => absurd (key hr' h) (lt_asymm h'),
      fun h' => h'.elim (fun h' => absurd h (lt_asymm h')) fun h' => absurd h'.1 h.ne'⟩

theorem shortlexKey_lt_iff {w a b : Nat} (ha : Bounded w a) (hb : Bounded w b) :
    shortlexKey w a < shortlexKey w b ↔ shortlexLt w a b := by
  rw [shortlexKey, shortlexKey, lex_lt_iff (reinv_lt w a) (reinv_lt w b), reinv_lt_iff ha hb, shortlexLt_iff]

theorem longlexKey_lt_iff {w a b : Nat} (ha : Bounded w a) (hb : Bounded w b) :
    longlexKey w a < longlexKey w b ↔ longlexLt w a b := by
  rw [longlexKey, longlexKey, lex_lt_iff (reinv_lt w a) (reinv_lt w b), reinv_lt_iff ha hb, longlexLt_iff]
  have h1 := card_le_width w a
  have h2 := card_le_width w b
  -- `c ↦ w - c` reverses the order of the counts (they are `≤ w`) and is injective on them
  exact or_congr (by omega) (and_congr_left' (by omega))

/-- both keys contain `reinv` as their remainder modulo `2 ^ w` -/
theorem reinv_eq_of_packed_eq {w a b c c' : Nat} (h : c * 2 ^ w + reinv w a = c' * 2 ^ w + reinv w b) :
    reinv w a = reinv w b := by
  rw [← Nat.mul_add_mod_of_lt (a := c) (reinv_lt w a), h, Nat.mul_add_mod_of_lt (reinv_lt w b)]

theorem shortlexKey_inj {w a b : Nat} (ha : Bounded w a) (hb : Bounded w b)
    (h : shortlexKey w a = shortlexKey w b) : a = b :=
  reinv_inj ha hb (reinv_eq_of_packed_eq h)

theorem longlexKey_inj {w a b : Nat} (ha : Bounded w a) (hb : Bounded w b)
    (h : longlexKey w a = longlexKey w b) : a = b :=
  reinv_inj ha hb (reinv_eq_of_packed_eq h)

theorem shortlexKey_lt_of_ssub {w a b : Nat} (h : a ⊆ᵇ b) (hb : Bounded w b) (hne : a ≠ b) :
    shortlexKey w a < shortlexKey w b :=
  (shortlexKey_lt_iff (bounded_sub h hb) hb).mpr (Or.inl (card_lt_of_ssub h hb hne))

theorem longlexKey_lt_of_ssub {w a b : Nat} (h : a ⊆ᵇ b) (hb : Bounded w b) (hne : a ≠ b) :
    longlexKey w b < longlexKey w a :=
  (longlexKey_lt_iff hb (bounded_sub h hb)).mpr (Or.inl (card_lt_of_ssub h hb hne))

end FCA
