import FCA.Model.DefnHeap
import FCA.Proofs.Defn
namespace FCA

/-! ### references: valid, disjoint -/

def DRef.Valid (h : Heap) (r : DRef) : Prop :=
  r.ao < h.length ∧ r.ap < h.length ∧ r.ac < h.length ∧ r.ao ≠ r.ap ∧ r.ao ≠ r.ac ∧ r.ap ≠ r.ac

instance (h : Heap) (r : DRef) : Decidable (r.Valid h) := by unfold DRef.Valid; infer_instance

def DRef.Disjoint (r r' : DRef) : Prop := ∀ a ∈ r.addrs, a ∉ r'.addrs

instance (r r' : DRef) : Decidable (r.Disjoint r') := by unfold DRef.Disjoint; infer_instance

theorem DRef.Disjoint.symm {r r' : DRef} (h : r.Disjoint r') : r'.Disjoint r :=
  fun a ha ha' => h a ha' ha

/-- the operand of an in-place union / intersection is the receiver itself or shares no object with it.  Partial
overlap is excluded: there the statements of the call would read an object they have just written, and `step_refines`
fails -/
def HOpG.Compat (r : DRef) : HOpG DRef → Prop
  | .plain _ => True
  | .unionUpdate other _ => other = r ∨ r.Disjoint other
  | .intersectionUpdate other _ => other = r ∨ r.Disjoint other

/-! ### reading after writing -/

theorem namesAt_congr {h h' : Heap} {a : Nat} (e : h'[a]? = h[a]?) : h'.namesAt a = h.namesAt a := by
  simp only [Heap.namesAt, e]

theorem cellsAt_congr {h h' : Heap} {a : Nat} (e : h'[a]? = h[a]?) : h'.cellsAt a = h.cellsAt a := by
  simp only [Heap.cellsAt, e]

theorem read_congr {h h' : Heap} {r : DRef} (e : ∀ a ∈ r.addrs, h'[a]? = h[a]?) :
    h'.read r = h.read r := by
  simp only [Heap.read]
  rw [namesAt_congr (e r.ao (by simp [DRef.addrs])), namesAt_congr (e r.ap (by simp [DRef.addrs])),
    cellsAt_congr (e r.ac (by simp [DRef.addrs]))]

theorem DRef.Valid.lt {h : Heap} {r : DRef} (hv : r.Valid h) : ∀ a ∈ r.addrs, a < h.length := by
  intro a ha
  simp only [DRef.addrs, List.mem_cons, List.not_mem_nil, or_false] at ha
  rcases ha with rfl | rfl | rfl
  exacts [hv.1, hv.2.1, hv.2.2.1]

theorem read_of_prefix {h h' : Heap} {r : DRef} (hv : r.Valid h) (hu : ∀ a, a < h.length → h'[a]? = h[a]?) :
    h'.read r = h.read r :=
  read_congr fun a ha => hu a (hv.lt a ha)

theorem disjoint_of_le {h : Heap} {r r' : DRef} (hv : r.Valid h) (hn : ∀ a ∈ r'.addrs, h.length ≤ a) :
    r.Disjoint r' :=
  fun a ha ha' => Nat.lt_irrefl a (Nat.lt_of_lt_of_le (hv.lt a ha) (hn a ha'))

theorem namesAt_set_ne {h : Heap} {a b : Nat} {o : HObj} (hab : a ≠ b) :
    Heap.namesAt (h.set a o) b = h.namesAt b :=
  namesAt_congr (List.getElem?_set_ne hab)

theorem cellsAt_set_ne {h : Heap} {a b : Nat} {o : HObj} (hab : a ≠ b) :
    Heap.cellsAt (h.set a o) b = h.cellsAt b :=
  cellsAt_congr (List.getElem?_set_ne hab)

theorem namesAt_set_self {h : Heap} {a : Nat} {l : List Name} (ha : a < h.length) :
    Heap.namesAt (h.set a (.names l)) a = l := by
  simp [Heap.namesAt, List.getElem?_set_self ha]

theorem cellsAt_set_self {h : Heap} {a : Nat} {l : List (Name × Name)} (ha : a < h.length) :
    Heap.cellsAt (h.set a (.cells l)) a = l := by
  simp [Heap.cellsAt, List.getElem?_set_self ha]

theorem set3_untouched (h : Heap) (r : DRef) (x y z : HObj) :
    (((h.set r.ao x).set r.ap y).set r.ac z).length = h.length ∧
    ∀ a, a ∉ r.addrs → (((h.set r.ao x).set r.ap y).set r.ac z)[a]? = h[a]? := by
  refine ⟨by simp, fun a ha => ?_⟩
  simp only [DRef.addrs, List.mem_cons, List.not_mem_nil, or_false, not_or] at ha
  rw [List.getElem?_set_ne (Ne.symm ha.2.2), List.getElem?_set_ne (Ne.symm ha.2.1),
    List.getElem?_set_ne (Ne.symm ha.1)]

theorem read_write_self {h : Heap} {r : DRef} (hv : r.Valid h) (d : Defn) :
    (h.write r d).read r = d := by
  obtain ⟨h1, h2, h3, n1, n2, n3⟩ := hv
  cases d with
  | mk os ps cs =>
    simp only [Heap.read, Heap.write, Defn.mk.injEq]
    refine ⟨?_, ?_, ?_⟩
    · rw [namesAt_set_ne (Ne.symm n2), namesAt_set_ne (Ne.symm n1), namesAt_set_self h1]
    · rw [namesAt_set_ne (Ne.symm n3), namesAt_set_self (by simpa using h2)]
    · rw [cellsAt_set_self (by simpa using h3)]

/-! ### allocation -/

theorem new_prefix (h : Heap) (d : Defn) {a : Nat} (ha : a < h.length) : (h.new d).1[a]? = h[a]? := by
  simp only [Heap.new]
  exact List.getElem?_append_left ha

theorem new_length (h : Heap) (d : Defn) : (h.new d).1.length = h.length + 3 := by
  simp [Heap.new]

theorem read_new (h : Heap) (d : Defn) : (h.new d).1.read (h.new d).2 = d := by
  cases d with
  | mk os ps cs =>
    simp only [Heap.new, Heap.read, Heap.namesAt, Heap.cellsAt, List.getElem?_append_right (Nat.le_refl _),
      List.getElem?_append_right (Nat.le_add_right _ _), Nat.sub_self, Nat.add_sub_cancel_left,
      List.getElem?_cons_zero, List.getElem?_cons_succ]

theorem valid_next {h : Heap} {n : Nat} (hl : n + 3 ≤ h.length) : DRef.Valid h ⟨n, n + 1, n + 2⟩ := by
  simp only [DRef.Valid]; omega

theorem valid_new (h : Heap) (d : Defn) : (h.new d).2.Valid (h.new d).1 :=
  valid_next (new_length h d).ge

theorem valid_mono {h h' : Heap} {r : DRef} (hv : r.Valid h) (hl : h.length ≤ h'.length) :
    r.Valid h' :=
  ⟨hv.1.trans_le hl, hv.2.1.trans_le hl, hv.2.2.1.trans_le hl, hv.2.2.2⟩

theorem next_addrs_ge (n : Nat) : ∀ a ∈ (⟨n, n + 1, n + 2⟩ : DRef).addrs, n ≤ a := by
  intro a ha
  simp only [DRef.addrs, List.mem_cons, List.not_mem_nil, or_false] at ha
  omega

theorem disjoint_new {h : Heap} {r : DRef} (hv : r.Valid h) (d : Defn) : r.Disjoint (h.new d).2 :=
  disjoint_of_le hv (next_addrs_ge h.length)

theorem read_new_old {h : Heap} {r : DRef} (hv : r.Valid h) (d : Defn) :
    (h.new d).1.read r = h.read r :=
  read_of_prefix hv fun _ ha => new_prefix h d ha

/-! ### mutators -/

/-- every accepting branch of `Heap.step` is three writes to the addresses of `r` -/
theorem step_untouched {h h' : Heap} {r : DRef} {op : HOp} {ret : List Name}
    (hs : h.step r op = .ok (h', ret)) :
    h'.length = h.length ∧ ∀ a, a ∉ r.addrs → h'[a]? = h[a]? := by
  cases op <;> simp only [Heap.step] at hs <;> split at hs <;> cases hs <;> exact set3_untouched h r _ _ _

theorem step_frame {h h' : Heap} {r r' : DRef} {op : HOp} {ret : List Name} (hd : r.Disjoint r')
    (hs : h.step r op = .ok (h', ret)) : h'.read r' = h.read r' :=
  read_congr fun a ha => (step_untouched hs).2 a fun ha' => hd a ha' ha

/-- the operand's name list of properties and its cells are not the objects the first two statements of
`union_update` / `intersection_update` write to -/
theorem compat_ne {h : Heap} {r other : DRef} (hv : r.Valid h) (hc : other = r ∨ r.Disjoint other) :
    r.ao ≠ other.ap ∧ r.ao ≠ other.ac ∧ r.ap ≠ other.ac := by
  obtain ⟨_, _, _, n1, n2, n3⟩ := hv
  rcases hc with rfl | hc
  · exact ⟨n1, n2, n3⟩
  · simp only [DRef.Disjoint, DRef.addrs, List.mem_cons, List.not_mem_nil, or_false, not_or] at hc
    exact ⟨(hc r.ao (Or.inl rfl)).2.1, (hc r.ao (Or.inl rfl)).2.2, (hc r.ap (Or.inr (Or.inl rfl))).2.2⟩

/-- `union_update` / `intersection_update` read the operand's second and third object after the first
statements have written, but never one of the objects written (`compat_ne`) -/
theorem step_refines {h : Heap} {r : DRef} {op : HOp} (hv : r.Valid h) (hc : op.Compat r) :
    (h.step r op).map (fun x => (x.1.read r, x.2)) = (h.read r).step (op.toOp h.read) := by
  cases op with
  | plain op =>
    simp only [Heap.step, HOpG.toOp]
    cases (h.read r).step op with
    | error e => rfl
    | ok x => simp only [Except.map, read_write_self hv]
  | unionUpdate other ig | intersectionUpdate other ig =>
    obtain ⟨m1, m2, m3⟩ := compat_ne hv hc
    have ⟨_, _, _, n1, n2, n3⟩ := hv
    show Except.map _ (if _ then _ else _) = if _ then _ else _
    split
    · rfl
    · simp only [Except.map, namesAt_set_ne n1, namesAt_set_ne m1, cellsAt_set_ne n2,
        cellsAt_set_ne n3, cellsAt_set_ne m2, cellsAt_set_ne m3]
      exact congrArg (fun d => Except.ok (d, [])) (read_write_self hv ⟨_, _, _⟩)

/-! ### deriving methods -/

theorem copy_step_refines {h : Heap} {r : DRef} {op : HOp} (hor : ∀ o ∈ op.refs, o.Valid h) :
    ((h.copy r).1.step (h.copy r).2 op).map (fun x => (x.1.read (h.copy r).2, x.2)) =
      (h.read r).step (op.toOp h.read) := by
  have hc : op.Compat (h.copy r).2 := by
    cases op with
    | plain op => trivial
    | unionUpdate o ig | intersectionUpdate o ig =>
      exact Or.inr (disjoint_new (hor o (by simp [HOpG.refs])) _).symm
  have key := step_refines (h := (h.copy r).1) (r := (h.copy r).2) (op := op) (valid_new _ _) hc
  rw [key]
  have e1 : (h.copy r).1.read (h.copy r).2 = h.read r := by
    simp only [Heap.copy, read_new, copy_eq]
  have e2 : op.toOp (h.copy r).1.read = op.toOp h.read := by
    cases op with
    | plain op => rfl
    | unionUpdate o ig | intersectionUpdate o ig =>
      simp only [HOpG.toOp, Heap.copy, read_new_old (hor o (by simp [HOpG.refs]))]
  rw [e1, e2]

/-- `result = self.copy(); result.<update>(other, …); return result`: `Heap.union` and `Heap.intersection`
unfold to this with `uop` the in-place call -/
def Heap.copyStep (h : Heap) (r : DRef) (uop : HOp) : Except Err (Heap × DRef) :=
  match (h.copy r).1.step (h.copy r).2 uop with
  | .ok (h2, _) => .ok (h2, (h.copy r).2)
  | .error e => .error e

theorem copyStep_refines {h : Heap} {r : DRef} {uop : HOp} (hor : ∀ o ∈ uop.refs, o.Valid h) :
    (h.copyStep r uop).map (fun x => x.1.read x.2) = ((h.read r).step (uop.toOp h.read)).map (·.1) := by
  rw [← copy_step_refines hor, Heap.copyStep]
  cases (h.copy r).1.step (h.copy r).2 uop <;> rfl

theorem union_refines {h : Heap} {r other : DRef} {ig : Bool} (ho : other.Valid h) :
    (h.union r other ig).map (fun x => x.1.read x.2) = (h.read r).union (h.read other) ig :=
  copyStep_refines (uop := .unionUpdate other ig) fun _ ho' => List.mem_singleton.mp ho' ▸ ho

theorem intersection_refines {h : Heap} {r other : DRef} {ig : Bool} (ho : other.Valid h) :
    (h.intersection r other ig).map (fun x => x.1.read x.2) =
      (h.read r).intersection (h.read other) ig :=
  copyStep_refines (uop := .intersectionUpdate other ig) fun _ ho' => List.mem_singleton.mp ho' ▸ ho

theorem derive_refines {h : Heap} {r : DRef} {op : DOp} (hor : ∀ o ∈ op.refs, o.Valid h) :
    (h.derive r op).map (fun x => x.1.read x.2) = (h.read r).derive h.read op := by
  cases op with
  | copy | inverted | transposed => exact congrArg Except.ok (read_new _ _)
  | take a b ro =>
    simp only [Heap.derive, Defn.derive, Heap.take]
    cases (h.read r).take a b ro with
    | error e => rfl
    | ok d => exact congrArg Except.ok (read_new _ _)
  | union o ig =>
    simp only [Heap.derive, Defn.derive]
    rw [← union_refines (hor o (by simp [DOpG.refs]))]
    cases h.union r o ig <;> rfl
  | intersection o ig =>
    simp only [Heap.derive, Defn.derive]
    rw [← intersection_refines (hor o (by simp [DOpG.refs]))]
    cases h.intersection r o ig <;> rfl

theorem copyStep_fresh {h h' : Heap} {r res : DRef} {uop : HOp} (hs : h.copyStep r uop = .ok (h', res)) :
    res = ⟨h.length, h.length + 1, h.length + 2⟩ ∧ h'.length = h.length + 3 ∧
    ∀ a, a < h.length → h'[a]? = h[a]? := by
  unfold Heap.copyStep at hs
  split at hs
  · rename_i h2 ret hs2
    cases hs
    obtain ⟨l, u⟩ := step_untouched hs2
    refine ⟨rfl, l.trans (new_length _ _), fun a ha => ?_⟩
    rw [u a fun ha' => Nat.lt_irrefl _ (Nat.lt_of_lt_of_le ha (next_addrs_ge h.length a ha')), Heap.copy,
      new_prefix _ _ ha]
  · cases hs

theorem derive_fresh {h h' : Heap} {r res : DRef} {op : DOp} (hs : h.derive r op = .ok (h', res)) :
    res = ⟨h.length, h.length + 1, h.length + 2⟩ ∧ h'.length = h.length + 3 ∧
    ∀ a, a < h.length → h'[a]? = h[a]? := by
  have hnew : ∀ d : Defn, (h.new d).2 = ⟨h.length, h.length + 1, h.length + 2⟩ ∧
      (h.new d).1.length = h.length + 3 ∧ ∀ a, a < h.length → (h.new d).1[a]? = h[a]? :=
    fun d => ⟨rfl, new_length h d, fun a ha => new_prefix h d ha⟩
  have hmapError : ∀ x : Except Err (Heap × DRef), (x.mapError fun e => (e, ([] : List Name))) = .ok (h', res) →
      x = .ok (h', res) := by
    rintro (e | x) hx <;> cases hx; rfl
  cases op with
  | copy | inverted | transposed => cases hs; exact hnew _
  | take a b ro =>
    simp only [Heap.derive, Heap.take] at hs
    split at hs
    · cases hs; exact hnew _
    · cases hs
  | union o ig | intersection o ig => exact copyStep_fresh (hmapError _ hs)

theorem run_untouched (h : Heap) (steps : List (DRef × HOp)) :
    (h.run steps).length = h.length ∧
    ∀ a, (∀ s ∈ steps, a ∉ s.1.addrs) → (h.run steps)[a]? = h[a]? := by
  induction steps generalizing h with
  | nil => exact ⟨rfl, fun _ _ => rfl⟩
  | cons s rest ih =>
    obtain ⟨r, op⟩ := s
    unfold Heap.run
    split
    · rename_i h' ret hs
      obtain ⟨l1, u1⟩ := step_untouched hs
      obtain ⟨l2, u2⟩ := ih h'
      refine ⟨l2.trans l1, fun a ha => ?_⟩
      rw [u2 a (fun s hs' => ha s (List.mem_cons_of_mem _ hs')), u1 a (ha (r, op) List.mem_cons_self)]
    · obtain ⟨l2, u2⟩ := ih h
      exact ⟨l2, fun a ha => u2 a (fun s hs' => ha s (List.mem_cons_of_mem _ hs'))⟩

/-! ### programs: reference semantics = value semantics -/

def PState.WF (s : PState) : Prop :=
  (∀ r ∈ s.vars, r.Valid s.heap) ∧ s.vars.Pairwise DRef.Disjoint

def PState.vals (s : PState) : List Defn := s.vars.map s.heap.read

theorem toOp_mapRef {ρ σ : Type} (op : HOpG ρ) (f : ρ → σ) (val : σ → Defn) (val' : ρ → Defn)
    (h : ∀ j ∈ op.refs, val (f j) = val' j) : (op.mapRef f).toOp val = op.toOp val' := by
  cases op with
  | plain op => rfl
  | unionUpdate o ig | intersectionUpdate o ig => simp only [HOpG.mapRef, HOpG.toOp, h o (by simp [HOpG.refs])]

theorem derive_mapRef {ρ σ : Type} (d : Defn) (op : DOpG ρ) (f : ρ → σ) (val : σ → Defn)
    (val' : ρ → Defn) (h : ∀ j ∈ op.refs, val (f j) = val' j) :
    d.derive val (op.mapRef f) = d.derive val' op := by
  cases op with
  | copy | inverted | transposed | take a b r => rfl
  | union o ig | intersection o ig => simp only [DOpG.mapRef, Defn.derive, h o (by simp [DOpG.refs])]

theorem refs_mapRef_h {ρ σ : Type} (op : HOpG ρ) (f : ρ → σ) : (op.mapRef f).refs = op.refs.map f := by
  cases op <;> rfl

theorem refs_mapRef_d {ρ σ : Type} (op : DOpG ρ) (f : ρ → σ) : (op.mapRef f).refs = op.refs.map f := by
  cases op <;> rfl

theorem PState.var_eq (s : PState) {i : Nat} (hi : i < s.vars.length) : s.var i = s.vars[i] := by
  simp [PState.var, List.getD_eq_getElem?_getD, hi]

theorem PState.vals_getD (s : PState) {i : Nat} (hi : i < s.vars.length) :
    s.vals.getD i Defn.empty = s.heap.read (s.var i) := by
  simp [PState.vals, List.getD_eq_getElem?_getD, hi, PState.var]

theorem PState.WF.disjoint {s : PState} (hw : s.WF) {i j : Nat} (hi : i < s.vars.length)
    (hj : j < s.vars.length) (hij : i ≠ j) : s.vars[i].Disjoint s.vars[j] := by
  have hp := hw.2
  rw [List.pairwise_iff_getElem] at hp
  rcases Nat.lt_or_gt_of_ne hij with h | h
  · exact hp i j hi hj h
  · exact (hp j i hj hi h).symm

theorem wf_append {s : PState} (hw : s.WF) {h' : Heap} {res : DRef}
    (hres : res = ⟨s.heap.length, s.heap.length + 1, s.heap.length + 2⟩)
    (hl : h'.length = s.heap.length + 3) : PState.WF ⟨h', s.vars ++ [res]⟩ := by
  subst hres
  constructor
  · intro r hr
    rcases List.mem_append.mp hr with hr | hr
    · exact valid_mono (hw.1 r hr) (hl ▸ Nat.le_add_right _ 3)
    · cases List.mem_singleton.mp hr; exact valid_next hl.ge
  · refine List.pairwise_append.mpr ⟨hw.2, List.pairwise_singleton _ _, fun a ha b hb => ?_⟩
    cases List.mem_singleton.mp hb
    exact disjoint_of_le (hw.1 a ha) (next_addrs_ge s.heap.length)

theorem vals_append {s : PState} (hw : s.WF) {h' : Heap} {res : DRef}
    (hu : ∀ a, a < s.heap.length → h'[a]? = s.heap[a]?) :
    PState.vals ⟨h', s.vars ++ [res]⟩ = s.vals ++ [h'.read res] := by
  simp only [PState.vals, List.map_append, List.map_cons, List.map_nil, List.append_cancel_right_eq]
  exact List.map_congr_left fun r hr => read_of_prefix (hw.1 r hr) hu

theorem compat_var {s : PState} (hw : s.WF) {i : Nat} (hi : i < s.vars.length) {op : HOpG Nat}
    (hrefs : ∀ j ∈ op.refs, j < s.vars.length) : (op.mapRef s.var).Compat (s.var i) := by
  have key : ∀ j, j < s.vars.length → s.var j = s.var i ∨ (s.var i).Disjoint (s.var j) := by
    intro j hj
    by_cases hij : i = j
    · subst hij; exact Or.inl rfl
    · rw [s.var_eq hi, s.var_eq hj]; exact Or.inr (hw.disjoint hi hj hij)
  cases op with
  | plain op => trivial
  | unionUpdate o ig | intersectionUpdate o ig => exact key o (hrefs o (by simp [HOpG.refs]))

theorem vals_step {s : PState} (hw : s.WF) {i : Nat} (hi : i < s.vars.length) {op : HOp} {h' : Heap}
    {ret : List Name} (hs : s.heap.step (s.var i) op = .ok (h', ret)) :
    PState.vals ⟨h', s.vars⟩ = s.vals.set i (h'.read (s.var i)) := by
  refine List.ext_getElem (by simp [PState.vals]) fun k hk _ => ?_
  have hk : k < s.vars.length := by simpa [PState.vals] using hk
  simp only [PState.vals, List.getElem_map, List.getElem_set]
  by_cases hik : i = k
  · subst hik; rw [if_pos rfl, s.var_eq hi]
  · rw [if_neg hik]
    exact step_frame (s.var_eq hi ▸ hw.disjoint hi hk hik) hs

theorem exec_sim {s : PState} (hw : s.WF) (c : Cmd) :
    (s.exec c).1.WF ∧ (s.exec c).1.vals = (vexec s.vals c).1 ∧ (s.exec c).2 = (vexec s.vals c).2 := by
  have hlen : s.vals.length = s.vars.length := by simp [PState.vals]
  cases c with
  | create os ps bs =>
    simp only [PState.exec, vexec]
    cases Defn.ofTriple os ps bs with
    | error e => exact ⟨hw, rfl, rfl⟩
    | ok d =>
      refine ⟨wf_append hw rfl (new_length _ _), ?_, rfl⟩
      rw [vals_append hw (fun a ha => new_prefix _ _ ha), read_new]
  | mutate i op =>
    simp only [PState.exec, vexec, hlen]
    split
    · rename_i hg
      simp only [Bool.and_eq_true, decide_eq_true_eq, List.all_eq_true] at hg
      obtain ⟨hi, hrefs⟩ := hg
      have hv : (s.var i).Valid s.heap := by
        rw [s.var_eq hi]; exact hw.1 _ (List.getElem_mem hi)
      -- the value-level call is the heap-level one read back, so one case split serves both runs
      rw [s.vals_getD hi, ← toOp_mapRef op s.var s.heap.read (fun j => s.vals.getD j Defn.empty)
        (fun j hj => (s.vals_getD (hrefs j hj)).symm), ← step_refines hv (compat_var hw hi hrefs)]
      rcases hs : s.heap.step (s.var i) (op.mapRef s.var) with e | ⟨h', ret⟩
      · exact ⟨hw, rfl, rfl⟩
      · refine ⟨⟨fun r hr => valid_mono (hw.1 r hr) (step_untouched hs).1.ge, hw.2⟩, vals_step hw hi hs, rfl⟩
    · exact ⟨hw, rfl, rfl⟩
  | derive i op =>
    simp only [PState.exec, vexec, hlen]
    split
    · rename_i hg
      simp only [Bool.and_eq_true, decide_eq_true_eq, List.all_eq_true] at hg
      obtain ⟨hi, hrefs⟩ := hg
      have hor : ∀ o ∈ (op.mapRef s.var).refs, o.Valid s.heap := by
        intro o ho
        rw [refs_mapRef_d, List.mem_map] at ho
        obtain ⟨j, hj, rfl⟩ := ho
        rw [s.var_eq (hrefs j hj)]
        exact hw.1 _ (List.getElem_mem _)
      rw [s.vals_getD hi, ← derive_mapRef _ op s.var s.heap.read (fun j => s.vals.getD j Defn.empty)
        (fun j hj => (s.vals_getD (hrefs j hj)).symm), ← derive_refines hor]
      rcases hs : s.heap.derive (s.var i) (op.mapRef s.var) with e | ⟨h', res⟩
      · exact ⟨hw, rfl, rfl⟩
      · obtain ⟨hres, hl, hu⟩ := derive_fresh hs
        exact ⟨wf_append hw hres hl, vals_append hw hu, rfl⟩
    · exact ⟨hw, rfl, rfl⟩

theorem execAll_sim {s : PState} (hw : s.WF) (cs : List Cmd) :
    (s.execAll cs).1.WF ∧ (s.execAll cs).1.vals = (vexecAll s.vals cs).1 ∧
    (s.execAll cs).2 = (vexecAll s.vals cs).2 := by
  induction cs generalizing s with
  | nil => exact ⟨hw, rfl, rfl⟩
  | cons c cs ih =>
    obtain ⟨w1, v1, o1⟩ := exec_sim hw c
    obtain ⟨w2, v2, o2⟩ := ih w1
    simp only [PState.execAll, vexecAll]
    rw [← v1, ← o1]
    exact ⟨w2, v2, by rw [o2]⟩

theorem wf_init : PState.WF ⟨[], []⟩ := ⟨by simp, List.Pairwise.nil⟩

end FCA
