import FCA.Proofs.DefnDerive
import FCA.Proofs.DefnInv
import FCA.Proofs.DefnOps
/-
The cell list of a definition stands for a Python `set`: nothing observable depends on its order or on repeats.
-/
namespace FCA

def Defn.SameSet (d d' : Defn) : Prop :=
  d.objs = d'.objs ∧ d.props = d'.props ∧ ∀ x, x ∈ d.pairs ↔ x ∈ d'.pairs

theorem Defn.SameSet.refl (d : Defn) : d.SameSet d := ⟨rfl, rfl, fun _ => Iff.rfl⟩

theorem Defn.SameSet.symm {d d' : Defn} (h : d.SameSet d') : d'.SameSet d :=
  ⟨h.1.symm, h.2.1.symm, fun x => (h.2.2 x).symm⟩

inductive Op.SameSet : Op → Op → Prop
  | union {e e' : Defn} (ig : Bool) : e.SameSet e' → Op.SameSet (.unionUpdate e ig) (.unionUpdate e' ig)
  | inter {e e' : Defn} (ig : Bool) : e.SameSet e' →
      Op.SameSet (.intersectionUpdate e ig) (.intersectionUpdate e' ig)
  | same (op : Op) : Op.SameSet op op

inductive ResSameSet : Except Err (Defn × List Name) → Except Err (Defn × List Name) → Prop
  | ok {x x' : Defn} (r : List Name) : x.SameSet x' → ResSameSet (.ok (x, r)) (.ok (x', r))
  | error (e : Err) : ResSameSet (.error e) (.error e)

theorem forall₂_sameSet_refl (ops : List Op) : List.Forall₂ Op.SameSet ops ops :=
  List.forall₂_same.mpr fun op _ => .same op

/-! ### what one reads from a definition -/

/-- every reader sees the cell list through `contains` only -/
theorem Defn.SameSet.contains_eq {d d' : Defn} (h : d.SameSet d') : d.pairs.contains = d'.pairs.contains :=
  funext fun x => contains_eq_of_iff (h.2.2 x)

theorem conflicts_congr {d d' e e' : Defn} (h : d.SameSet d') (he : e.SameSet e') :
    conflicts d e = conflicts d' e' := by
  rw [conflicts, h.1, h.2.1, he.1, he.2.1, h.contains_eq, he.contains_eq]; rfl

theorem bools_congr {d d' : Defn} (h : d.SameSet d') : d.bools = d'.bools := by
  rw [Defn.bools, h.1, h.2.1, h.contains_eq]; rfl

theorem getItem_congr {d d' : Defn} (h : d.SameSet d') (o p : Name) : d.getItem o p = d'.getItem o p := by
  rw [Defn.getItem, h.1, h.2.1, h.contains_eq]; rfl

theorem eqv_congr {d d' e e' : Defn} (h : d.SameSet d') (he : e.SameSet e') : d.eqv e = d'.eqv e' := by
  rw [Bool.eq_iff_iff, eqv_iff, eqv_iff, h.1, h.2.1, he.1, he.2.1]
  simp only [h.2.2, he.2.2]

theorem inverted_congr {d d' : Defn} (h : d.SameSet d') : d.inverted = d'.inverted := by
  rw [Defn.inverted, h.1, h.2.1, h.contains_eq]; rfl

theorem take_congr {d d' : Defn} (h : d.SameSet d') (a b : Option (List Name)) (r : Bool) :
    d.take a b r = d'.take a b r := by
  unfold Defn.take; rw [h.1, h.2.1, h.contains_eq]

theorem transposed_sameSet {d d' : Defn} (h : d.SameSet d') : d.transposed.SameSet d'.transposed :=
  ⟨h.2.1, h.1, fun ⟨a, b⟩ => by simp only [mem_transposed, h.2.2]⟩

/-! ### the mutators -/

theorem any_fst_congr {c c' : List Cell} (h : ∀ x, x ∈ c ↔ x ∈ c') (o : Name) :
    (c.any fun (o', _) => o' == o) = (c'.any fun (o', _) => o' == o) := by
  rw [Bool.eq_iff_iff, List.any_eq_true, List.any_eq_true]
  exact ⟨fun ⟨x, hx, hp⟩ => ⟨x, (h x).mp hx, hp⟩, fun ⟨x, hx, hp⟩ => ⟨x, (h x).mpr hx, hp⟩⟩

theorem ResSameSet.map_transposed {a b : Except Err (Defn × List Name)} (h : ResSameSet a b) :
    ResSameSet (a.map fun x => (x.1.transposed, x.2)) (b.map fun x => (x.1.transposed, x.2)) := by
  cases h with
  | ok r hx => exact .ok r (transposed_sameSet hx)
  | error e => exact .error e

theorem unionUpdate_sameSet {d d' e e' : Defn} (h : d.SameSet d') (he : e.SameSet e') (ig : Bool) :
    ResSameSet (d.step (.unionUpdate e ig)) (d'.step (.unionUpdate e' ig)) := by
  simp only [Defn.step, conflicts_congr h he, ← h.1, ← h.2.1, ← he.1, ← he.2.1]
  split
  · exact .error _
  · exact .ok _ ⟨rfl, rfl, fun x => by simp only [mem_foldl_pAdd, h.2.2, he.2.2]⟩

theorem intersectionUpdate_sameSet {d d' e e' : Defn} (h : d.SameSet d') (he : e.SameSet e') (ig : Bool) :
    ResSameSet (d.step (.intersectionUpdate e ig)) (d'.step (.intersectionUpdate e' ig)) := by
  simp only [Defn.step, conflicts_congr h he, ← h.1, ← h.2.1, ← he.1, ← he.2.1]
  split
  · exact .error _
  · exact .ok _ ⟨rfl, rfl, fun x => by rw [List.mem_filter, List.mem_filter, h.2.2, he.contains_eq]⟩

theorem step_sameSet_same {d d' : Defn} (h : d.SameSet d') (op : Op) :
    ResSameSet (d.step op) (d'.step op) := by
  induction op using Op.axisRec generalizing d d' with
  | swap op ih => rw [step_swap, step_swap]; exact (ih (transposed_sameSet h)).map_transposed
  | setItem o p v =>
    exact .ok _ ⟨h.1 ▸ rfl, h.2.1 ▸ rfl, fun x => by rw [mem_setCell, mem_setCell, h.2.2]⟩
  | renameObject old new =>
    simp only [Defn.step, bind, Except.bind, ← h.1, ← h.2.1]
    cases uReplace d.objs old new with
    | error e => exact .error e
    | ok l =>
      refine .ok _ ⟨rfl, rfl, ?_⟩
      rintro ⟨a, b⟩
      simp only [mem_renameObj, h.2.2]
  | moveObject o i =>
    simp only [Defn.step, bind, Except.bind, ← h.1, ← h.2.1]
    cases uMove d.objs o i with
    | error e => exact .error e
    | ok l => exact .ok _ ⟨rfl, rfl, h.2.2⟩
  | addObject o qs =>
    refine .ok _ ⟨h.1 ▸ rfl, h.2.1 ▸ rfl, fun x => ?_⟩
    simp only [mem_foldl_pAdd_row, h.2.2]
  | removeObject o =>
    simp only [Defn.step, ← h.1]
    split
    · refine .ok _ ⟨rfl, h.2.1, ?_⟩
      rintro ⟨a, b⟩
      rw [mem_removeObj, mem_removeObj, h.2.1, h.2.2]
    · exact .error _
  | removeEmptyObjects =>
    simp only [Defn.step, any_fst_congr h.2.2, ← h.1]
    exact .ok _ ⟨rfl, h.2.1, h.2.2⟩
  | setObject o qs =>
    refine .ok _ ⟨h.1 ▸ rfl, h.2.1 ▸ rfl, fun x => ?_⟩
    simp only [mem_foldl_setRow, h.2.2, h.2.1]
  | unionUpdate e ig => exact unionUpdate_sameSet h (.refl e) ig
  | intersectionUpdate e ig => exact intersectionUpdate_sameSet h (.refl e) ig

theorem step_sameSet {d d' : Defn} {op op' : Op} (h : d.SameSet d') (hop : op.SameSet op') :
    ResSameSet (d.step op) (d'.step op') := by
  cases hop with
  | same op => exact step_sameSet_same h op
  | union ig he => exact unionUpdate_sameSet h he ig
  | inter ig he => exact intersectionUpdate_sameSet h he ig

theorem runTrace_sameSet {d d' : Defn} {ops ops' : List Op} (h : d.SameSet d')
    (hops : List.Forall₂ Op.SameSet ops ops') :
    (d.runTrace ops).1.SameSet (d'.runTrace ops').1 ∧ (d.runTrace ops).2 = (d'.runTrace ops').2 := by
  induction hops generalizing d d' with
  | nil => exact ⟨h, rfl⟩
  | @cons op op' ops ops' hop _ ih =>
    have hs := step_sameSet h hop
    unfold Defn.runTrace
    generalize d.step op = a at hs
    generalize d'.step op' = b at hs
    cases hs with
    | ok r hx => exact ⟨(ih hx).1, by simp only [(ih hx).2]⟩
    | error e => exact ⟨(ih h).1, by simp only [(ih h).2]⟩

end FCA
