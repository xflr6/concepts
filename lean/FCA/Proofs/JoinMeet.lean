import FCA.Model.Lattice
import FCA.Proofs.Galois
/-
Unions and intersections of lists of masks and the closure system of the closed object sets (intersections are closed,
`(A'' ∪ B)'' = (A ∪ B)''`): what `Lattice.join` / `meet` rest on.
-/
namespace FCA

theorem mem_foldl_or (xs : List Nat) (a i : Nat) :
    i ∈ᵇ xs.foldl (· ||| ·) a ↔ i ∈ᵇ a ∨ ∃ x ∈ xs, i ∈ᵇ x :=
  mem_foldl_of_step (P := fun x i => i ∈ᵇ x) (fun _ _ _ => mem_or) xs a i

/-- the union lies in `U` iff every part does -/
theorem foldl_or_sub_iff {xs : List Nat} {a U : Nat} :
    xs.foldl (· ||| ·) a ⊆ᵇ U ↔ a ⊆ᵇ U ∧ ∀ x ∈ xs, x ⊆ᵇ U := by
  simp only [sub, mem_foldl_or]
  exact ⟨fun h => ⟨fun i hi => h i (.inl hi), fun x hx i hi => h i (.inr ⟨x, hx, hi⟩)⟩,
    fun h i hi => hi.elim (h.1 i) fun ⟨x, hx, hi⟩ => h.2 x hx i hi⟩

theorem mem_foldl_and (xs : List Nat) (a i : Nat) :
    i ∈ᵇ xs.foldl (· &&& ·) a ↔ i ∈ᵇ a ∧ ∀ x ∈ xs, i ∈ᵇ x := by
  induction xs generalizing a with
  | nil => simp
  | cons x xs ih => rw [List.foldl_cons, ih, mem_and, List.forall_mem_cons, and_assoc]

theorem bounded_foldl_or {k a : Nat} {xs : List Nat} (ha : Bounded k a) (h : ∀ x ∈ xs, Bounded k x) :
    Bounded k (xs.foldl (· ||| ·) a) :=
  List.foldlRecOn xs _ ha fun _ hb x hx => bounded_or hb (h x hx)

theorem and_closed {K : Ctx} (h : K.WF) {x y : Nat} (hx : closedObj K x) (hy : closedObj K y) :
    closedObj K (x &&& y) := by
  have hb : Bounded K.n (x &&& y) := fun i hi => hx.1 i (mem_and.mp hi).1
  refine ⟨hb, sub_antisymm ?_ (sub_doubleObj h hb)⟩
  intro i hi
  rw [mem_and]
  exact ⟨closed_sub_of_sub hx (fun j hj => (mem_and.mp hj).1) i hi,
    closed_sub_of_sub hy (fun j hj => (mem_and.mp hj).2) i hi⟩

theorem foldl_and_closed {K : Ctx} (h : K.WF) {xs : List Nat} {a : Nat} (ha : closedObj K a)
    (hx : ∀ x ∈ xs, closedObj K x) : closedObj K (xs.foldl (· &&& ·) a) :=
  List.foldlRecOn xs _ ha fun _ hb x hxm => and_closed h hb (hx x hxm)

theorem double_or_absorb {K : Ctx} (h : K.WF) {A B : Nat} (hA : Bounded K.n A) (hB : Bounded K.n B) :
    K.doubleObj (K.doubleObj A ||| B) = K.doubleObj (A ||| B) := by
  have hAB := bounded_or hA hB
  apply sub_antisymm
  · apply closed_sub_of_sub (doubleObj_closed h _)
    intro i hi
    rcases mem_or.mp hi with hi | hi
    · exact doubleObj_mono (fun j hj => mem_or.mpr (Or.inl hj)) i hi
    · exact sub_doubleObj h hAB i (mem_or.mpr (Or.inr hi))
  · apply doubleObj_mono
    intro i hi
    rcases mem_or.mp hi with hi | hi
    · exact mem_or.mpr (Or.inl (sub_doubleObj h hA i hi))
    · exact mem_or.mpr (Or.inr hi)

theorem foldl_extentAt (L : Lattice) (op : Nat → Nat → Nat) (cs : List Nat) (a : Nat) :
    cs.foldl (fun u c => op u (((L[c]?).map (·.extent)).getD 0)) a = (cs.map L.extentAt).foldl op a := by
  rw [List.foldl_map]; rfl

end FCA
