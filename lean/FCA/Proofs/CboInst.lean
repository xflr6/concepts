import FCA.Proofs.Cbo
/-
The two sides of a context (`fcbo` grows intents, `fcboDual` grows extents) satisfy the abstract
requirements of `Cbo.SideOK`; the property side is the object side of the transposed table, and
`fcbo K` is `fcboDual` of the transposed table with the pairs swapped.
-/
namespace FCA
namespace Cbo

/-- side of `fast_generate_from`: own = intent, other = extent -/
def sideP (K : Ctx) : Side := ⟨K.m, fun j => K.cols[j]!, K.intentOf⟩
/-- side of `fcbo_dual`: own = extent, other = intent -/
def sideO (K : Ctx) : Side := ⟨K.n, fun j => K.rows[j]!, K.extentOf⟩

theorem intentOf_or_pow {K : Ctx} (A i : Nat) :
    K.intentOf A &&& K.rows[i]! = K.intentOf (A ||| 2 ^ i) := by
  apply ext; intro j
  simp only [mem_and, mem_intentOf, mem_or, mem_pow]
  constructor
  · rintro ⟨⟨hj, hall⟩, hij⟩
    refine ⟨hj, ?_⟩
    rintro i' (hi' | rfl)
    · exact hall i' hi'
    · exact hij
  · rintro ⟨hj, hall⟩
    exact ⟨⟨hj, fun i' hi' => hall i' (Or.inl hi')⟩, hall i (Or.inr rfl)⟩

theorem sideO_ok {K : Ctx} (h : K.WF) : SideOK (sideO K) K.intentOf where
  ext' := fun _ => (isClo_doubleObj h).sub_cl
  mono := fun _ _ => (isClo_doubleObj h).mono
  idem := (isClo_doubleObj h).idem
  bdd := (isClo_doubleObj h).bounded
  inter := fun A i _ => intentOf_or_pow A i
  der_cl := fun _ ha => intent_extent_intent h ha
  empty := by
    intro A hA h0 i hi
    change K.extentOf (K.intentOf A) = A at hA
    rw [← hA, h0, mem_extentOf h]
    exact ⟨hi, fun j hj => absurd hj not_mem_zero⟩

/-- `sideP K` is `sideO K.transpose` by definition -/
theorem sideP_ok {K : Ctx} (h : K.WF) : SideOK (sideP K) K.extentOf := sideO_ok (transpose_WF h)

theorem fcboDual_eq (K : Ctx) : fcboDual K =
    (fcboNode (sideO K) (K.n + 1) ⟨K.extentOf (K.intentOf 0), K.intentOf 0⟩ 0
      (Array.replicate K.n 0)).map fun nd => (nd.own, nd.other) := rfl

theorem fcbo_eq_swap {K : Ctx} (h : K.WF) : fcbo K = (fcboDual K.transpose).map Prod.swap := by
  have e : K.extentOf (K.intentOf (full K.n)) = full K.n := (full_closed h).2
  rw [fcboDual_eq, List.map_map]
  unfold fcbo Ctx.dpObj
  simp only
  rw [e]
  rfl

end Cbo
end FCA
