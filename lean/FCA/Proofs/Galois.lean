import FCA.Model.Galois
import FCA.Proofs.Bits
/- The derivation operators of the model are the Galois connection of the table. -/
namespace FCA

/-! ### the loop of `prime` -/

theorem shiftRight_lt_of_pos {b s f : Nat} (hs : 0 < s) (hf : b < 2 ^ (f + 1)) : b >>> s < 2 ^ f := by
  rw [Nat.shiftRight_eq_div_pow]
  refine Nat.div_lt_of_lt_mul (Nat.lt_of_lt_of_le hf ?_)
  rw [← Nat.pow_add]
  exact Nat.pow_le_pow_right Nat.two_pos (Nat.add_comm f 1 ▸ Nat.add_le_add_right hs f)

/-- the trailing-zero skipping AND loop computes the pointwise intersection of the selected rows -/
theorem primeLoop_spec (other : Array Nat) (fuel bitset i acc j : Nat)
    (hf : bitset < 2 ^ fuel) :
    (primeLoop other fuel bitset i acc).testBit j = true ↔
      (acc.testBit j = true ∧ ∀ k, bitset.testBit k = true → (other[i+k]!).testBit j = true) := by
  show j ∈ᵇ primeLoop other fuel bitset i acc ↔ j ∈ᵇ acc ∧ ∀ k, k ∈ᵇ bitset → j ∈ᵇ other[i+k]!
  induction fuel generalizing bitset i acc with
  | zero =>
    obtain rfl : bitset = 0 := Nat.lt_one_iff.mp hf
    exact (and_iff_left fun _ hk => absurd hk not_mem_zero).symm
  | succ fuel ih =>
    rw [primeLoop]
    split
    · next hb => subst hb; exact (and_iff_left fun _ hk => absurd hk not_mem_zero).symm
    next hb =>
    obtain ⟨h1, h2⟩ := tz_spec bitset hb
    simp only []
    split
    · next hs =>
      -- member 0 contributes `other[i]`, the members above it are those of `bitset >>> 1`
      rw [hs] at h1
      rw [ih _ _ _ (shiftRight_lt_of_pos Nat.one_pos hf), forall_mem_split bitset 1, mem_and, and_assoc]
      simp only [Nat.lt_one_iff, forall_eq, Nat.add_zero, Nat.add_assoc, h1, true_imp_iff]
    · next hs =>
      -- no member below `tz bitset`
      rw [ih _ _ _ (shiftRight_lt_of_pos (Nat.pos_of_ne_zero hs) hf), forall_mem_split bitset (tz bitset)]
      simp only [Nat.add_assoc, and_congr_right_iff, iff_and_self]
      exact fun _ _ k hk hm => absurd hm (h2 k hk)

theorem mem_primeOf (other : Array Nat) (sup bitset j : Nat) :
    j ∈ᵇ primeOf other sup bitset ↔ j ∈ᵇ sup ∧ ∀ k, k ∈ᵇ bitset → j ∈ᵇ other[k]! := by
  unfold primeOf mem
  rw [primeLoop_spec other bitset bitset 0 sup j Nat.lt_two_pow_self]
  simp only [Nat.zero_add]

/-! ### rows, columns, transposition -/

/-- incidence: object `i` has property `j` -/
def Ctx.has (K : Ctx) (i j : Nat) : Prop := j ∈ᵇ K.rows[i]!

instance (K : Ctx) (i j : Nat) : Decidable (K.has i j) := by unfold Ctx.has; infer_instance

theorem size_colsOf (n m : Nat) (rows : Array Nat) : (colsOf n m rows).size = m := by
  simp [colsOf]

theorem mem_colsOf (n m : Nat) (rows : Array Nat) (i j : Nat) :
    i ∈ᵇ (colsOf n m rows)[j]! ↔ j < m ∧ i < n ∧ j ∈ᵇ rows[i]! := by
  unfold colsOf
  by_cases hj : j < m
  · rw [show ∀ f : Nat → Nat, (((List.range m).map f).toArray)[j]! = f j from fun f => by simp [hj],
      mem_foldl_of_step (P := fun k i => i = k ∧ rows[k]!.testBit j = true) fun _ _ _ => mem_ite_or_pow]
    simp [hj, mem]
  · rw [show ∀ f : Nat → Nat, (((List.range m).map f).toArray)[j]! = 0 from fun f => by simp [hj]]
    simp [hj]

theorem mkCtx_WF {n m : Nat} {rows : Array Nat} (hsz : rows.size = n) (hrow : ∀ i, i < n → rows[i]! < 2 ^ m) :
    (mkCtx n m rows).WF := ⟨hsz, hrow, rfl⟩

theorem Ctx.WF.mkCtx_eq {K : Ctx} (h : K.WF) : mkCtx K.n K.m K.rows = K := by
  unfold mkCtx; rw [← h.2.2]

theorem Ctx.WF.has_lt {K : Ctx} (h : K.WF) {i j : Nat} (hij : K.has i j) : i < K.n ∧ j < K.m := by
  obtain ⟨hsz, hrow, _⟩ := h
  unfold Ctx.has at hij
  by_cases hi : i < K.n
  · refine ⟨hi, ?_⟩
    exact bounded_iff_lt.mpr (hrow i hi) j hij
  · rw [getElem!_neg K.rows i (by rwa [hsz])] at hij
    exact absurd hij not_mem_zero

theorem mem_cols {K : Ctx} (h : K.WF) {i j : Nat} : i ∈ᵇ K.cols[j]! ↔ K.has i j := by
  rw [h.2.2, mem_colsOf]
  exact ⟨fun h' => h'.2.2, fun hij => ⟨(h.has_lt hij).2, (h.has_lt hij).1, hij⟩⟩

theorem cols_bounded {K : Ctx} (h : K.WF) (j : Nat) : Bounded K.n (K.cols[j]!) :=
  fun _ hi => (h.has_lt ((mem_cols h).mp hi)).1

theorem transpose_transpose (K : Ctx) : K.transpose.transpose = K := rfl

theorem transpose_has {K : Ctx} (h : K.WF) {i j : Nat} : K.transpose.has j i ↔ K.has i j := mem_cols h

theorem transpose_WF {K : Ctx} (h : K.WF) : K.transpose.WF := by
  refine ⟨?_, fun j _ => ?_, ?_⟩
  · show K.cols.size = K.m
    rw [h.2.2, size_colsOf]
  · exact bounded_iff_lt.mp (cols_bounded h j)
  · show K.rows = colsOf K.m K.n K.cols
    apply Array.ext
    · rw [size_colsOf, h.1]
    · intro i h1 h2
      rw [← getElem!_pos K.rows i h1, ← getElem!_pos _ i h2]
      apply ext; intro j
      rw [mem_colsOf]
      exact ⟨fun hj => ⟨(h.has_lt hj).1, (h.has_lt hj).2, (transpose_has h).mpr hj⟩,
        fun h' => (transpose_has h).mp h'.2.2⟩

/-! ### the two derivations

`K.transpose.intentOf` is `K.extentOf` and `K.transpose.extentOf` is `K.intentOf` by definition, so every
statement about the property side is the statement about the object side of `K.transpose`. -/

/-- C01 kernel: `Objects.prime` (extent → intent) -/
theorem mem_intentOf {K : Ctx} {A j : Nat} :
    j ∈ᵇ K.intentOf A ↔ j < K.m ∧ ∀ i, i ∈ᵇ A → K.has i j := by
  rw [Ctx.intentOf, mem_primeOf, mem_full]
  rfl

/-- C01 kernel: `Properties.prime` (intent → extent) -/
theorem mem_extentOf {K : Ctx} (h : K.WF) {B i : Nat} :
    i ∈ᵇ K.extentOf B ↔ i < K.n ∧ ∀ j, j ∈ᵇ B → K.has i j :=
  (mem_intentOf (K := K.transpose)).trans
    (and_congr_right' (forall₂_congr fun _ _ => transpose_has h))

theorem bounded_intentOf {K : Ctx} (A : Nat) : Bounded K.m (K.intentOf A) :=
  fun _ hj => (mem_intentOf.mp hj).1

theorem bounded_extentOf {K : Ctx} (B : Nat) : Bounded K.n (K.extentOf B) :=
  bounded_intentOf (K := K.transpose) B

theorem intentOf_zero (K : Ctx) : K.intentOf 0 = full K.m :=
  ext fun j => by rw [mem_intentOf]; simp

theorem extentOf_zero (K : Ctx) : K.extentOf 0 = full K.n := intentOf_zero K.transpose

theorem intentOf_anti {K : Ctx} {A A' : Nat} (hs : A ⊆ᵇ A') : K.intentOf A' ⊆ᵇ K.intentOf A := by
  intro j hj
  rw [mem_intentOf] at hj ⊢
  exact ⟨hj.1, fun i hi => hj.2 i (hs i hi)⟩

theorem extentOf_anti {K : Ctx} {B B' : Nat} (hs : B ⊆ᵇ B') : K.extentOf B' ⊆ᵇ K.extentOf B :=
  intentOf_anti (K := K.transpose) hs

theorem sub_extent_intent {K : Ctx} (h : K.WF) {A : Nat} (hA : Bounded K.n A) :
    A ⊆ᵇ K.extentOf (K.intentOf A) := by
  intro i hi
  rw [mem_extentOf h]
  exact ⟨hA i hi, fun j hj => (mem_intentOf.mp hj).2 i hi⟩

theorem sub_intent_extent {K : Ctx} (h : K.WF) {B : Nat} (hB : Bounded K.m B) :
    B ⊆ᵇ K.intentOf (K.extentOf B) :=
  sub_extent_intent (transpose_WF h) hB

theorem intent_extent_intent {K : Ctx} (h : K.WF) {A : Nat} (hA : Bounded K.n A) :
    K.intentOf (K.extentOf (K.intentOf A)) = K.intentOf A :=
  sub_antisymm (intentOf_anti (sub_extent_intent h hA)) (sub_intent_extent h (bounded_intentOf A))

theorem extent_intent_extent {K : Ctx} (h : K.WF) {B : Nat} (hB : Bounded K.m B) :
    K.extentOf (K.intentOf (K.extentOf B)) = K.extentOf B :=
  intent_extent_intent (transpose_WF h) hB

/-! ### concepts and closed sets -/

/-- a formal concept of `K` on index level -/
def isConcept (K : Ctx) (A B : Nat) : Prop :=
  Bounded K.n A ∧ Bounded K.m B ∧ K.intentOf A = B ∧ K.extentOf B = A

def closedObj (K : Ctx) (A : Nat) : Prop := Bounded K.n A ∧ K.doubleObj A = A

theorem isConcept_iff_closed {K : Ctx} {A B : Nat} :
    isConcept K A B ↔ closedObj K A ∧ B = K.intentOf A := by
  unfold isConcept closedObj Ctx.doubleObj
  constructor
  · rintro ⟨hA, _, h1, h2⟩
    exact ⟨⟨hA, by rw [h1, h2]⟩, h1.symm⟩
  · rintro ⟨⟨hA, h1⟩, rfl⟩
    exact ⟨hA, bounded_intentOf A, rfl, h1⟩

/-- the model predicate `isConcept` is the textbook definition over the incidence `K.has` -/
theorem isConcept_spec {K : Ctx} (h : K.WF) {A B : Nat} :
    isConcept K A B ↔ Bounded K.n A ∧ Bounded K.m B ∧
      (∀ j, j ∈ᵇ B ↔ j < K.m ∧ ∀ i, i ∈ᵇ A → K.has i j) ∧
      (∀ i, i ∈ᵇ A ↔ i < K.n ∧ ∀ j, j ∈ᵇ B → K.has i j) := by
  rw [isConcept, eq_comm, eq_comm (a := K.extentOf B), ext_iff, ext_iff]
  simp only [mem_intentOf, mem_extentOf h]

theorem isConcept_transpose {K : Ctx} {A B : Nat} : isConcept K.transpose B A ↔ isConcept K A B :=
  ⟨fun ⟨hB, hA, h1, h2⟩ => ⟨hA, hB, h2, h1⟩, fun ⟨hA, hB, h1, h2⟩ => ⟨hB, hA, h2, h1⟩⟩

theorem concept_order_dual {K : Ctx} {A₁ B₁ A₂ B₂ : Nat}
    (h1 : isConcept K A₁ B₁) (h2 : isConcept K A₂ B₂) : A₁ ⊆ᵇ A₂ ↔ B₂ ⊆ᵇ B₁ :=
  ⟨fun hs => h1.2.2.1 ▸ h2.2.2.1 ▸ intentOf_anti hs, fun hs => h1.2.2.2 ▸ h2.2.2.2 ▸ extentOf_anti hs⟩

theorem concept_intent_unique {K : Ctx} {A B B' : Nat}
    (h1 : isConcept K A B) (h2 : isConcept K A B') : B = B' := by
  rw [← h1.2.2.1, ← h2.2.2.1]

theorem concept_extent_unique {K : Ctx} {A A' B : Nat}
    (h1 : isConcept K A B) (h2 : isConcept K A' B) : A = A' := by
  rw [← h1.2.2.2, ← h2.2.2.2]

theorem doubleObj_closed {K : Ctx} (h : K.WF) (A : Nat) : closedObj K (K.doubleObj A) :=
  ⟨bounded_extentOf _, extent_intent_extent h (bounded_intentOf A)⟩

theorem dpObj_eq {K : Ctx} (h : K.WF) {X : Nat} (hX : Bounded K.n X) :
    K.dpObj X = (K.doubleObj X, K.intentOf (K.doubleObj X)) := by
  unfold Ctx.dpObj Ctx.doubleObj
  simp only
  rw [intent_extent_intent h hX]

theorem doubleObj_mono {K : Ctx} {A A' : Nat} (hs : A ⊆ᵇ A') : K.doubleObj A ⊆ᵇ K.doubleObj A' :=
  extentOf_anti (intentOf_anti hs)

theorem sub_doubleObj {K : Ctx} (h : K.WF) {A : Nat} (hA : Bounded K.n A) : A ⊆ᵇ K.doubleObj A :=
  sub_extent_intent h hA

theorem closed_sub_of_sub {K : Ctx} {A U : Nat} (hU : closedObj K U) (hs : A ⊆ᵇ U) :
    K.doubleObj A ⊆ᵇ U := by
  have := doubleObj_mono (K := K) hs
  rwa [hU.2] at this

theorem full_closed {K : Ctx} (h : K.WF) : closedObj K (full K.n) :=
  ⟨bounded_full _, sub_antisymm (bounded_iff_sub_full.mp (bounded_extentOf _)) (sub_doubleObj h (bounded_full _))⟩

/-! ### object concepts `o''` and attribute concepts `p'` -/

theorem objConcept_closed {K : Ctx} (h : K.WF) (o : Nat) : closedObj K (K.doubleObj (2 ^ o)) :=
  doubleObj_closed h _

theorem attrConcept_closed {K : Ctx} (h : K.WF) {p : Nat} (hp : p < K.m) : closedObj K (K.extentOf (2 ^ p)) :=
  ⟨bounded_extentOf _, extent_intent_extent h (bounded_pow hp)⟩

theorem mem_objConcept {K : Ctx} (h : K.WF) {o : Nat} (ho : o < K.n) : o ∈ᵇ K.doubleObj (2 ^ o) :=
  sub_doubleObj h (bounded_pow ho) o (mem_pow.mpr rfl)

theorem mem_attrConcept {K : Ctx} (h : K.WF) {p i : Nat} :
    i ∈ᵇ K.extentOf (2 ^ p) ↔ i < K.n ∧ K.has i p := by
  rw [mem_extentOf h]
  simp only [mem_pow, forall_eq]

theorem objConcept_sub_iff {K : Ctx} (h : K.WF) {o e : Nat} (ho : o < K.n) (he : closedObj K e) :
    K.doubleObj (2 ^ o) ⊆ᵇ e ↔ o ∈ᵇ e := by
  constructor
  · intro hs; exact hs o (mem_objConcept h ho)
  · intro hoe
    apply closed_sub_of_sub he
    intro i hi
    rw [mem_pow.mp hi]; exact hoe

theorem sub_attrConcept_iff {K : Ctx} (h : K.WF) {p e : Nat} (hp : p < K.m) :
    e ⊆ᵇ K.extentOf (2 ^ p) ↔ p ∈ᵇ K.intentOf e := by
  rw [mem_intentOf]
  constructor
  · intro hs
    exact ⟨hp, fun i hi => ((mem_attrConcept h).mp (hs i hi)).2⟩
  · rintro ⟨_, hall⟩ i hi
    exact (mem_attrConcept h).mpr ⟨(h.has_lt (hall i hi)).1, hall i hi⟩

end FCA
