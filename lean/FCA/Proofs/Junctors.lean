import FCA.Model.Junctors
import FCA.Proofs.Galois
import FCA.Proofs.ListAux
import Mathlib.Data.Nat.Choose.Basic
/-
C16 (`junctors.py`). The pattern code of two columns is four occurrence bits, so the classification is a table
decided over the 16 patterns plus the reading of each bit as a statement about masks. `relations` is then the
stable sort of the unary items followed by one item per pair of contingent properties (`relations_eq`), with
`combos2` read as `List.Sublist [a, b]` and `sortRel` as `List.insertionSort`.
-/
namespace FCA

def encode4 (a b c d : Bool) : Nat :=
  (if a then 1 else 0) ||| (if b then 2 else 0) ||| (if c then 4 else 0) ||| (if d then 8 else 0)

theorem binaryCode_eq (n l r : Nat) :
    binaryCode n l r = encode4 (decide (l &&& r ≠ 0)) (decide (andNot l r ≠ 0))
      (decide (andNot r l ≠ 0)) (decide (andNot (full n) (l ||| r) ≠ 0)) := by
  simp only [binaryCode, encode4, decide_eq_true_eq]

/-- The four premises are what contingency of the two columns amounts to: of `both / only left`, of
`only right / neither`, of `both / only right` and of `only left / neither` one occurs. -/
theorem encode4_reading : ∀ a b c d : Bool, (a || b) = true → (c || d) = true → (a || c) = true → (b || d) = true →
    encode4 a b c d ∈ [15, 7, 13, 11, 9, 14, 6] ∧
    (encode4 a b c d = 9 ↔ b = false ∧ c = false) ∧
    (encode4 a b c d = 6 ↔ a = false ∧ d = false) ∧
    (encode4 a b c d = 14 ↔ a = false ∧ d = true) ∧
    (encode4 a b c d = 13 ↔ b = false ∧ c = true) ∧
    (encode4 a b c d = 11 ↔ b = true ∧ c = false) ∧
    (encode4 a b c d = 7 ↔ a = true ∧ d = false ∧ b = true ∧ c = true) ∧
    (encode4 a b c d = 15 ↔ a = true ∧ b = true ∧ c = true ∧ d = true) := by decide +kernel

theorem unaryCode_eq_three_iff {n col : Nat} : unaryCode n col = 3 ↔ col ≠ 0 ∧ col ≠ full n := by
  unfold unaryCode
  split_ifs with h1 h2 h2 <;> simp [h1, h2]

theorem unaryCode_spec {n : Nat} (hn : 0 < n) (col : Nat) :
    unaryCode n col ∈ [1, 2, 3] ∧ (unaryCode n col = 1 ↔ col = full n) ∧
    (unaryCode n col = 2 ↔ col = 0) ∧ (unaryCode n col = 3 ↔ col ≠ 0 ∧ col ≠ full n) := by
  have hf : full n ≠ 0 := ne_zero_iff.mpr ⟨0, mem_full.mpr hn⟩
  rcases eq_or_ne col 0 with rfl | h1
  · have : unaryCode n 0 = 2 := by rw [unaryCode, if_neg (not_not.mpr rfl), if_pos hf.symm]; rfl
    rw [this]; simp [hf.symm]
  rcases eq_or_ne col (full n) with rfl | h2
  · have : unaryCode n (full n) = 1 := by rw [unaryCode, if_pos hf, if_neg (not_not.mpr rfl)]; rfl
    rw [this]; simp [hf]
  · rw [unaryCode_eq_three_iff.mpr ⟨h1, h2⟩]; simp [h1, h2]

theorem binaryCode_reading {n l r : Nat} (hl : Bounded n l) (hr : Bounded n r)
    (hcl : unaryCode n l = 3) (hcr : unaryCode n r = 3) :
    binaryCode n l r ∈ [15, 7, 13, 11, 9, 14, 6] ∧
    (binaryCode n l r = 9 ↔ l ⊆ᵇ r ∧ r ⊆ᵇ l) ∧
    (binaryCode n l r = 6 ↔ l &&& r = 0 ∧ l ||| r = full n) ∧
    (binaryCode n l r = 14 ↔ l &&& r = 0 ∧ l ||| r ≠ full n) ∧
    (binaryCode n l r = 13 ↔ l ⊆ᵇ r ∧ ¬ r ⊆ᵇ l) ∧
    (binaryCode n l r = 11 ↔ ¬ l ⊆ᵇ r ∧ r ⊆ᵇ l) ∧
    (binaryCode n l r = 7 ↔ l &&& r ≠ 0 ∧ l ||| r = full n ∧ ¬ l ⊆ᵇ r ∧ ¬ r ⊆ᵇ l) ∧
    (binaryCode n l r = 15 ↔ l &&& r ≠ 0 ∧ ¬ l ⊆ᵇ r ∧ ¬ r ⊆ᵇ l ∧ l ||| r ≠ full n) := by
  rw [unaryCode_eq_three_iff] at hcl hcr
  have h := encode4_reading (decide (l &&& r ≠ 0)) (decide (andNot l r ≠ 0)) (decide (andNot r l ≠ 0))
    (decide (andNot (full n) (l ||| r) ≠ 0))
  rw [← binaryCode_eq] at h
  simp only [Bool.or_eq_true, decide_eq_true_eq, decide_eq_false_iff_not, ne_eq, not_not, andNot_eq_zero_iff,
    andNot_full_eq_zero_iff (bounded_or hl hr)] at h
  refine h (or_iff_not_imp_right.mpr fun s => ?_) (or_iff_not_imp_left.mpr fun s => ?_)
    (or_iff_not_imp_right.mpr fun s => ?_) (or_iff_not_imp_left.mpr fun s => ?_)
  -- each premise of the table from one half of one contingency: under the inclusion the meet / join is a column
  · rw [and_eq_left_iff.mpr (not_not.mp s)]; exact hcl.1                -- l ⊆ r: l & r = l ≠ 0
  · rw [or_eq_left_iff.mpr (not_not.mp s)]; exact hcl.2                 -- r ⊆ l: l | r = l ≠ full
  · rw [Nat.and_comm, and_eq_left_iff.mpr (not_not.mp s)]; exact hcr.1  -- r ⊆ l: l & r = r ≠ 0
  · rw [Nat.or_comm, or_eq_left_iff.mpr (not_not.mp s)]; exact hcr.2    -- l ⊆ r: l | r = r ≠ full

/-- documented kind of a binary pattern (13 and 11 are both reported as implication) -/
def kindOfCode : Nat → String
  | 9 => "equivalent" | 6 => "complement" | 14 => "incompatible" | 13 => "implication"
  | 11 => "implication" | 7 => "subcontrary" | 15 => "orthogonal" | _ => ""

/-- documented sort rank of a binary pattern -/
def rankOfCode : Nat → Int
  | 9 => 1 | 6 => 2 | 14 => 3 | 13 => 4 | 11 => 4 | 7 => 6 | 15 => 7 | _ => 0

def unaryKind : Nat → String
  | 1 => "tautology" | 2 => "contradiction" | 3 => "contingency" | _ => ""

def unaryRank : Nat → Int
  | 1 => -1 | 2 => -2 | 3 => 0 | _ => 0

/-- what `classifyBinary` reads from the entry found for a pattern -/
def JTable.binInfo (T : JTable) (c : Nat) : Option (Bool × String × Int) :=
  (T.binary.find? (·.pattern == c)).map fun e => (e.name == "Replication", e.kind, e.order)

/-- what `classifyUnary` / `relations` read from the entry found for a unary pattern -/
def JTable.unInfo (T : JTable) (c : Nat) : Option (Bool × String × Int) :=
  (T.unary.find? (·.pattern == c)).map fun e => (e.name == "Contingency", e.kind, e.order)

/-- Well-formedness of a pattern table, as weak as the proofs need: only the lookups the classifier can make (the
seven patterns of two contingent columns, the three of one column, the name `Implication`) are constrained, and
only in what it reads from the entry found. -/
def JTable.Good (T : JTable) : Prop :=
  (∀ c ∈ [15, 7, 13, 9, 14, 6], T.binInfo c = some (false, kindOfCode c, rankOfCode c)) ∧
  (T.binInfo 11).map (·.1) = some true ∧
  (T.binary.find? (·.name == "Implication")).map (fun e => (e.kind, e.order)) = some ("implication", 4) ∧
  (∀ c ∈ [1, 2, 3], T.unInfo c = some (c == 3, unaryKind c, unaryRank c))

instance (T : JTable) : Decidable T.Good := by unfold JTable.Good; infer_instance

theorem pinnedTable_good : pinnedTable.Good := by decide +kernel

/-- no pattern is the pattern of two entries (separately for the unary and the binary classes): the
decidable condition under which "first match" (`List.find?` of the model) and "last definition wins"
(`RelationMeta.__map[pattern] = cls` in Python) select the same entry -/
def JTable.NoDupPatterns (T : JTable) : Prop :=
  (T.binary.map (·.pattern)).Nodup ∧ (T.unary.map (·.pattern)).Nodup

instance (T : JTable) : Decidable T.NoDupPatterns := by unfold JTable.NoDupPatterns; infer_instance

/-- no class name is used twice (`globals()[cls.__name__] = cls`: the names `Replication`,
`Implication`, `Contingency`, `Orthogonal` the code refers to are then unambiguous) -/
def JTable.NoDupNames (T : JTable) : Prop := ((T.unary ++ T.binary).map (·.name)).Nodup

instance (T : JTable) : Decidable T.NoDupNames := by unfold JTable.NoDupNames; infer_instance

def specBinary (n l r cl cr : Nat) : RelItem :=
  if binaryCode n cl cr = 11 then ⟨"implication", r, some l, 4⟩
  else ⟨kindOfCode (binaryCode n cl cr), l, some r, rankOfCode (binaryCode n cl cr)⟩

def specUnary (n p col : Nat) : RelItem :=
  ⟨unaryKind (unaryCode n col), p, none, unaryRank (unaryCode n col)⟩

theorem kind_specBinary (n l r cl cr : Nat) :
    (specBinary n l r cl cr).kind = kindOfCode (binaryCode n cl cr) := by
  unfold specBinary; split_ifs with h
  · rw [h]; rfl
  · rfl

theorem kindOfCode_eq_iff : ∀ c ∈ [15, 7, 13, 11, 9, 14, 6],
    (kindOfCode c = "equivalent" ↔ c = 9) ∧ (kindOfCode c = "complement" ↔ c = 6) ∧
    (kindOfCode c = "incompatible" ↔ c = 14) ∧ (kindOfCode c = "implication" ↔ c = 13 ∨ c = 11) ∧
    (kindOfCode c = "subcontrary" ↔ c = 7) ∧ (kindOfCode c = "orthogonal" ↔ c = 15) := by decide +kernel

theorem unaryKind_ne_implication (c : Nat) : unaryKind c ≠ "implication" := by
  unfold unaryKind; split <;> decide

theorem unaryKind_eq_iff : ∀ c ∈ [1, 2, 3],
    (unaryKind c = "tautology" ↔ c = 1) ∧ (unaryKind c = "contradiction" ↔ c = 2) ∧
    (unaryKind c = "contingency" ↔ c = 3) ∧
    (unaryKind c = "tautology" ∨ unaryKind c = "contradiction" ∨ unaryKind c = "contingency") := by decide +kernel

theorem JTable.Good.binInfo_eq {T : JTable} (hT : T.Good) {c : Nat} (hc : c ∈ [15, 7, 13, 11, 9, 14, 6])
    (h : c ≠ 11) : T.binInfo c = some (false, kindOfCode c, rankOfCode c) :=
  hT.1 c (List.mem_filter.mpr ⟨hc, bne_iff_ne.mpr h⟩ : c ∈ [15, 7, 13, 11, 9, 14, 6].filter (· != 11))

theorem JTable.Good.isSome_find? {T : JTable} (hT : T.Good) :
    (∀ c ∈ [15, 7, 13, 11, 9, 14, 6], (T.binary.find? (·.pattern == c)).isSome = true) ∧
    (∀ c ∈ [1, 2, 3], (T.unary.find? (·.pattern == c)).isSome = true) := by
  refine ⟨fun c hc => ?_, fun c hc => ?_⟩
  · rw [← Option.isSome_map (f := fun e => (e.name == "Replication", e.kind, e.order)), ← JTable.binInfo]
    by_cases hc11 : c = 11
    · rw [hc11, ← Option.isSome_map (f := (·.1)), hT.2.1]; rfl
    · rw [hT.binInfo_eq hc hc11]; rfl
  · rw [← Option.isSome_map (f := fun e => (e.name == "Contingency", e.kind, e.order)), ← JTable.unInfo, hT.2.2.2 c hc]; rfl

theorem classifyBinary_eq {T : JTable} (hT : T.Good) {n l r cl cr : Nat}
    (hc : binaryCode n cl cr ∈ [15, 7, 13, 11, 9, 14, 6]) :
    classifyBinary T n l r cl cr = some (specBinary n l r cl cr) := by
  unfold classifyBinary specBinary
  split_ifs with hc11
  · obtain ⟨i, hi, hi1⟩ := Option.map_eq_some_iff.mp hT.2.1
    obtain ⟨e, he, rfl⟩ := Option.map_eq_some_iff.mp hi
    obtain ⟨imp, himp, hk⟩ := Option.map_eq_some_iff.mp hT.2.2.1
    rw [Prod.mk.injEq] at hk
    simp only [hc11, he, himp, Option.map_some, hk.1, hk.2]
    exact if_pos hi1
  · obtain ⟨e, he, hi⟩ := Option.map_eq_some_iff.mp (hT.binInfo_eq hc hc11)
    rw [Prod.mk.injEq, Prod.mk.injEq] at hi
    simp only [he, hi.1, hi.2.1, hi.2.2, Bool.false_eq_true, if_false]

theorem classifyUnary_eq {T : JTable} (hT : T.Good) {n : Nat} (hn : 0 < n) (p col : Nat) :
    ∃ e, classifyUnary T n p col = some (e, specUnary n p col) ∧
      (e.name == "Contingency") = (unaryCode n col == 3) := by
  obtain ⟨e, he, hi⟩ := Option.map_eq_some_iff.mp (hT.2.2.2 _ (unaryCode_spec hn col).1)
  rw [Prod.mk.injEq, Prod.mk.injEq] at hi
  exact ⟨e, by rw [classifyUnary, he, Option.map_some, specUnary, ← hi.2.1, ← hi.2.2], hi.1⟩

theorem mem_combos2_cons {a b x : Nat} {xs : List Nat} :
    (a, b) ∈ combos2 (x :: xs) ↔ (a = x ∧ b ∈ xs) ∨ (a, b) ∈ combos2 xs := by
  simp only [combos2, List.mem_append, List.mem_map, Prod.mk.injEq, exists_eq_right_right, eq_comm (a := x),
    and_comm (a := b ∈ xs)]

theorem mem_combos2_iff_sublist {a b : Nat} {l : List Nat} :
    (a, b) ∈ combos2 l ↔ List.Sublist [a, b] l := by
  induction l with
  | nil => simp [combos2]
  | cons x xs ih => rw [mem_combos2_cons, ih, List.cons_sublist_cons', List.singleton_sublist, or_comm]

theorem mem_combos2_sorted {a b : Nat} {l : List Nat} (hl : l.Pairwise (· < ·)) :
    (a, b) ∈ combos2 l ↔ a ∈ l ∧ b ∈ l ∧ a < b := by
  rw [mem_combos2_iff_sublist]
  refine ⟨fun h => ⟨h.subset List.mem_cons_self, h.subset (List.mem_cons_of_mem _ List.mem_cons_self),
    List.pairwise_pair.mp (hl.sublist h)⟩, fun ⟨ha, hb, hab⟩ => ?_⟩
  exact List.sublist_of_subperm_of_pairwise
    (List.subperm_of_subset (List.pairwise_pair.mpr hab.ne)
      (List.cons_subset.mpr ⟨ha, List.cons_subset.mpr ⟨hb, List.nil_subset _⟩⟩))
    (List.pairwise_pair.mpr hab) hl

theorem combos2_nodup {l : List Nat} (hl : l.Nodup) : (combos2 l).Nodup := by
  induction l with
  | nil => simp [combos2]
  | cons x xs ih =>
    rw [List.nodup_cons] at hl
    unfold combos2
    rw [List.nodup_append]
    refine ⟨?_, ih hl.2, ?_⟩
    · exact hl.2.map (fun a b h => by simpa using h)
    · intro p hp q hq hpq
      subst hpq
      rw [List.mem_map] at hp
      obtain ⟨y, _, rfl⟩ := hp
      exact hl.1 ((mem_combos2_iff_sublist.mp hq).subset List.mem_cons_self)

theorem combos2_length (l : List Nat) : (combos2 l).length = l.length * (l.length - 1) / 2 := by
  induction l with
  | nil => rfl
  | cons x xs ih =>
    rw [combos2, List.length_append, List.length_map, ih, List.length_cons, Nat.triangle_succ, Nat.add_comm]

theorem insertRel_eq (x : RelItem) (l : List RelItem) :
    insertRel x l = l.orderedInsert (RelItem.order ⁻¹'o (· ≤ ·)) x := by
  induction l with
  | nil => rfl
  | cons y ys ih => rw [insertRel, List.orderedInsert_cons, ← ih]; rfl

theorem sortRel_eq (l : List RelItem) : sortRel l = l.insertionSort (RelItem.order ⁻¹'o (· ≤ ·)) :=
  foldr_eq_insertionSort _ insertRel_eq l

theorem sortRel_perm {l : List RelItem} : (sortRel l).Perm l :=
  sortRel_eq l ▸ List.perm_insertionSort _ l

theorem sortRel_sorted (l : List RelItem) : (sortRel l).Pairwise (fun a b => a.order ≤ b.order) :=
  sortRel_eq l ▸ pairwise_insertionSort_key _ l

theorem filter_sortRel (k : Int) (l : List RelItem) :
    (sortRel l).filter (fun a => decide (a.order = k)) = l.filter (fun a => decide (a.order = k)) :=
  sortRel_eq l ▸ filter_insertionSort_key _ k l

def contingentProps (K : Ctx) : List Nat :=
  (List.range K.m).filter fun p => decide (unaryCode K.n (K.cols[p]!) = 3)

theorem mem_contingentProps {K : Ctx} {p : Nat} :
    p ∈ contingentProps K ↔ p < K.m ∧ unaryCode K.n (K.cols[p]!) = 3 := by
  simp [contingentProps]

theorem contingentProps_sorted (K : Ctx) : (contingentProps K).Pairwise (· < ·) :=
  List.Pairwise.sublist List.filter_sublist List.pairwise_lt_range

theorem contingentProps_nodup (K : Ctx) : (contingentProps K).Nodup :=
  (contingentProps_sorted K).imp (fun h => Nat.ne_of_lt h)

theorem mem_combos2_contingent {K : Ctx} {i j : Nat} :
    (i, j) ∈ combos2 (contingentProps K) ↔
      i < j ∧ j < K.m ∧ unaryCode K.n (K.cols[i]!) = 3 ∧ unaryCode K.n (K.cols[j]!) = 3 := by
  rw [mem_combos2_sorted (contingentProps_sorted K), mem_contingentProps, mem_contingentProps]
  exact ⟨fun ⟨⟨_, hi⟩, ⟨hj, hj'⟩, hij⟩ => ⟨hij, hj, hi, hj'⟩,
    fun ⟨hij, hj, hi, hj'⟩ => ⟨⟨hij.trans hj, hi⟩, ⟨hj, hj'⟩, hij⟩⟩

def unaryItems (K : Ctx) : List RelItem :=
  (List.range K.m).map fun p => specUnary K.n p (K.cols[p]!)

def binaryItems (K : Ctx) : List RelItem :=
  (combos2 (contingentProps K)).map fun q => specBinary K.n q.1 q.2 (K.cols[q.1]!) (K.cols[q.2]!)

theorem relations_eq {T : JTable} (hT : T.Good) {K : Ctx} (hK : K.WF) (hn : 0 < K.n) (iu : Bool) :
    relations T K iu = sortRel ((if iu then unaryItems K else []) ++ binaryItems K) := by
  have hu := fun p => classifyUnary_eq hT hn p (K.cols[p]!)
  have h1 : ((List.range K.m).filterMap fun p => classifyUnary T K.n p (K.cols[p]!)).map (·.2) = unaryItems K := by
    rw [List.map_filterMap]
    exact List.filterMap_eq_map_iff_forall_eq_some.mpr fun p _ => by obtain ⟨e, he, _⟩ := hu p; rw [he]; rfl
  have h2 : (((List.range K.m).filterMap fun p => classifyUnary T K.n p (K.cols[p]!)).filterMap
      fun (x : JEntry × RelItem) => match x with
        | (e, it) => if e.name == "Contingency" then some it.left else none) = contingentProps K := by
    rw [List.filterMap_filterMap, contingentProps, ← filterMap_ite_eq_filter]
    exact List.filterMap_congr fun p _ => by
      obtain ⟨e, he, hc⟩ := hu p
      rw [he, Option.bind_some]
      simp only [hc, beq_iff_eq]; rfl
  have h3 : ((combos2 (contingentProps K)).filterMap fun (q : Nat × Nat) => match q with
      | (l, r) => classifyBinary T K.n l r (K.cols[l]!) (K.cols[r]!)) = binaryItems K := by
    apply List.filterMap_eq_map_iff_forall_eq_some.mpr
    rintro ⟨l, r⟩ hq
    obtain ⟨_, _, hl, hr⟩ := mem_combos2_contingent.mp hq
    exact classifyBinary_eq hT (binaryCode_reading (cols_bounded hK l) (cols_bounded hK r) hl hr).1
  unfold relations
  simp only []
  rw [h2, h3, h1]

theorem mem_relations {T : JTable} (hT : T.Good) {K : Ctx} (hK : K.WF) (hn : 0 < K.n) {iu : Bool} {x : RelItem} :
    x ∈ relations T K iu ↔ (iu = true ∧ x ∈ unaryItems K) ∨ x ∈ binaryItems K := by
  rw [relations_eq hT hK hn, sortRel_perm.mem_iff, List.mem_append]
  cases iu <;> simp

theorem encode4_swap : ∀ a b c d : Bool, encode4 a b c d = 11 → encode4 a c b d = 13 := by decide

theorem binaryCode_swap {n cl cr : Nat} (h : binaryCode n cl cr = 11) : binaryCode n cr cl = 13 := by
  rw [binaryCode_eq, Nat.and_comm, Nat.or_comm]
  exact encode4_swap _ _ _ _ (binaryCode_eq n cl cr ▸ h)

/-- Pattern 11 is reported as pattern 13 of the swapped pair (`RelationMeta.__call__`: `Replication` becomes
`Implication` with `left, right = right, left`), so every item carries the pattern of its own columns. -/
theorem binaryItems_oriented {K : Ctx} {x : RelItem} (hx : x ∈ binaryItems K) :
    ∃ a b, a ≠ b ∧ a < K.m ∧ b < K.m ∧ unaryCode K.n (K.cols[a]!) = 3 ∧ unaryCode K.n (K.cols[b]!) = 3 ∧
      binaryCode K.n (K.cols[a]!) (K.cols[b]!) ≠ 11 ∧
      x = ⟨kindOfCode (binaryCode K.n (K.cols[a]!) (K.cols[b]!)), a, some b,
        rankOfCode (binaryCode K.n (K.cols[a]!) (K.cols[b]!))⟩ := by
  obtain ⟨⟨i, j⟩, hq, rfl⟩ := List.mem_map.mp hx
  obtain ⟨hij, hj, hi, hj'⟩ := mem_combos2_contingent.mp hq
  by_cases h : binaryCode K.n (K.cols[i]!) (K.cols[j]!) = 11
  · have h13 := binaryCode_swap h
    exact ⟨j, i, Nat.ne_of_gt hij, hj, hij.trans hj, hj', hi, by rw [h13]; decide,
      by rw [h13, specBinary, if_pos h]; rfl⟩
  · exact ⟨i, j, Nat.ne_of_lt hij, hij.trans hj, hj, hi, hj', h, by rw [specBinary, if_neg h]⟩

/-- the unordered pair of properties a binary entry is about (`none` for a unary entry) -/
def RelItem.pair (x : RelItem) : Option (Nat × Nat) :=
  x.right.map fun r => (min x.left r, max x.left r)

theorem pair_specBinary (n l r cl cr : Nat) :
    (specBinary n l r cl cr).pair = some (min l r, max l r) := by
  unfold specBinary
  split
  · exact congrArg some (Prod.ext (Nat.min_comm r l) (Nat.max_comm r l))
  · rfl

theorem right_binaryItems {K : Ctx} {x : RelItem} (h : x ∈ binaryItems K) : x.right.isSome = true := by
  obtain ⟨q, _, rfl⟩ := List.mem_map.mp h
  unfold specBinary; split <;> rfl

theorem isNone_right_binaryItems {K : Ctx} {x : RelItem} (h : x ∈ binaryItems K) : x.right.isNone = false :=
  Option.isNone_eq_false_iff.mpr (right_binaryItems h)

theorem right_unaryItems {K : Ctx} {x : RelItem} (h : x ∈ unaryItems K) : x.right = none := by
  obtain ⟨p, _, rfl⟩ := List.mem_map.mp h; rfl

theorem map_pair_binaryItems (K : Ctx) :
    (binaryItems K).map RelItem.pair = (combos2 (contingentProps K)).map some := by
  unfold binaryItems
  rw [List.map_map]
  apply List.map_congr_left
  rintro ⟨l, r⟩ hq
  have hlt := (mem_combos2_contingent.mp hq).1
  simp only [Function.comp, pair_specBinary]
  rw [Nat.min_eq_left (le_of_lt hlt), Nat.max_eq_right (le_of_lt hlt)]

theorem map_pair_unaryItems (K : Ctx) :
    (unaryItems K).map RelItem.pair = (List.range K.m).map fun _ => none := by
  unfold unaryItems
  rw [List.map_map]
  rfl

end FCA
