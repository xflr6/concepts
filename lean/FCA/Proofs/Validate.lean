import FCA.Model.Misc
import FCA.Model.Render
import FCA.Proofs.Galois
import FCA.Proofs.ListAux
/-
The guard chains of `Context.__init__` and `Context.fromdict` (C19) in propositional form, and the row masks of
an accepted table (also used by C11 and C14).
-/
namespace FCA

theorem hasDup_eq_false_iff (l : List Name) : hasDup l = false ↔ l.Nodup := by
  induction l with
  | nil => simp [hasDup]
  | cons x xs ih =>
    simp only [hasDup, Bool.or_eq_false_iff, ih, List.nodup_cons]
    simp

theorem ctorAccepts_iff (os ps : List Name) (lens : List Nat) :
    ctorAccepts os ps lens = true ↔
      os ≠ [] ∧ os.Nodup ∧ ps ≠ [] ∧ ps.Nodup ∧ (∀ x, x ∈ os → x ∉ ps) ∧
      lens.length = os.length ∧ ∀ l ∈ lens, l = ps.length := by
  unfold ctorAccepts
  simp only [Bool.and_eq_true, Bool.not_eq_true', hasDup_eq_false_iff, List.isEmpty_eq_false_iff,
    beq_iff_eq, List.all_eq_true, List.any_eq_false, List.contains_iff_mem, and_assoc, ne_eq]

/-- the documented acceptance condition of `Context(objects, properties, bools)` -/
def TripleOk (os ps : List Name) (bools : List (List Bool)) : Prop :=
  os ≠ [] ∧ os.Nodup ∧ ps ≠ [] ∧ ps.Nodup ∧ (∀ x, x ∈ os → x ∉ ps) ∧
  bools.length = os.length ∧ ∀ row ∈ bools, row.length = ps.length

theorem tripleOk_iff {os ps : List Name} {bools : List (List Bool)} :
    ctorAccepts os ps (bools.map (·.length)) = true ↔ TripleOk os ps bools := by
  rw [ctorAccepts_iff, List.length_map, List.forall_mem_map]; rfl

theorem mem_rowMask {row : List Bool} {j : Nat} :
    j ∈ᵇ rowMask row ↔ j < row.length ∧ row[j]! = true := by
  unfold rowMask
  rw [mem_foldl_of_step (P := fun p i => p.1 = true ∧ i = p.2)
    (fun acc p i => by obtain ⟨b, k⟩ := p; cases b <;> simp)]
  simp only [not_mem_zero, false_or, Prod.exists, List.mem_zipIdx_iff_getElem?]
  constructor
  · rintro ⟨_, _, h, rfl, rfl⟩
    obtain ⟨hlt, e⟩ := List.getElem?_eq_some_iff.mp h
    exact ⟨hlt, (getElem!_pos row j hlt).trans e⟩
  · rintro ⟨hlt, e⟩
    exact ⟨true, j, (List.getElem?_eq_getElem hlt).trans (congrArg some ((getElem!_pos row j hlt).symm.trans e)),
      rfl, rfl⟩

theorem rowMask_lt (row : List Bool) : rowMask row < 2 ^ row.length := by
  rw [← bounded_iff_lt]
  intro j hj
  exact (mem_rowMask.mp hj).1

theorem testBit_rowMask (row : List Bool) (j : Nat) : (rowMask row).testBit j = row.getD j false := by
  rw [Bool.eq_iff_iff]
  refine mem_rowMask.trans ?_
  by_cases hj : j < row.length <;> simp [hj, List.getD_eq_getElem?_getD]

theorem rowMask_testBits {m r : Nat} (h : r < 2 ^ m) : rowMask ((List.range m).map fun j => r.testBit j) = r := by
  refine Nat.eq_of_testBit_eq fun j => ?_
  rw [testBit_rowMask, List.getD_eq_getElem?_getD, List.getElem?_map]
  by_cases hj : j < m
  · rw [List.getElem?_range hj]; rfl
  · rw [List.getElem?_eq_none (by simpa using hj)]
    exact (Bool.eq_false_iff.mpr fun hb => hj (bounded_iff_lt.mpr h j hb)).symm

theorem rowMask_nil : rowMask [] = 0 := rfl

theorem getElem!_map_toArray {α β : Type} [Inhabited α] [Inhabited β] {f : α → β} (hf : f default = default)
    (l : List α) (i : Nat) : ((l.map f).toArray)[i]! = f (l[i]!) := by
  by_cases h : i < l.length
  · simp [h]
  · simp [h, hf]

theorem mkCtx_rowMask_WF {n m : Nat} {bools : List (List Bool)} (hl : bools.length = n)
    (hrow : ∀ row ∈ bools, row.length = m) : (mkCtx n m (bools.map rowMask).toArray).WF :=
  mkCtx_WF (by rw [List.size_toArray, List.length_map, hl]) fun i hi => by
    rw [getElem!_map_toArray rowMask_nil, ← hrow _ (getElem!_mem (hl ▸ hi))]; exact rowMask_lt _

theorem ctxOfTriple_eq_ok_iff {os ps : List Name} {bools : List (List Bool)} {K : Ctx} :
    ctxOfTriple os ps bools = .ok K ↔
      ctorAccepts os ps (bools.map (·.length)) = true ∧ K = mkCtx os.length ps.length (bools.map rowMask).toArray :=
  ite_ok_eq_ok_iff

def SName.isStr : SName → Bool
  | .str _ => true
  | .other => false

def strNames (l : List SName) : List Name :=
  l.filterMap fun v => match v with | .str s => some s | .other => none

/-- `bools = [tuple(i in intent for i in indexes) for intent in …]` of `fromdict` -/
def boolsOf (np : Nat) (context : List (List Int)) : List (List Bool) :=
  context.map fun r => (List.range np).map fun j => r.contains (j : Int)

theorem strNames_map_str (l : List Name) : strNames (l.map SName.str) = l := by
  induction l with
  | nil => rfl
  | cons a l ih => simp only [List.map_cons, strNames, List.filterMap_cons] at ih ⊢; rw [ih]

theorem isStr_map_str (l : List Name) : ∀ v ∈ l.map SName.str, v.isStr = true := by
  intro v hv; obtain ⟨s, _, rfl⟩ := List.mem_map.mp hv; rfl

theorem map_str_strNames {l : List SName} (h : ∀ v ∈ l, v.isStr = true) : (strNames l).map SName.str = l := by
  induction l with
  | nil => rfl
  | cons a l ih =>
    have ha := h a List.mem_cons_self
    have := ih (fun v hv => h v (List.mem_cons_of_mem _ hv))
    cases a with
    | str s => simp only [strNames, List.filterMap_cons, List.map_cons] at this ⊢; rw [this]
    | other => simp [SName.isStr] at ha

theorem strNames_length {l : List SName} (h : ∀ v ∈ l, v.isStr = true) : (strNames l).length = l.length := by
  conv_rhs => rw [← map_str_strNames h]
  simp

theorem all_isStr_iff (l : List SName) :
    (l.all fun v => match v with | .str _ => true | .other => false) = true ↔ ∀ v ∈ l, v.isStr = true :=
  List.all_eq_true

deriving instance DecidableEq for SLattice

theorem slattice_beq_iff (a b : SLattice) : (a == b) = true ↔ a = b := by
  cases a <;> cases b <;> decide

/-- the per-row guard of `fromdict` -/
theorem rowOk_iff (np : Nat) (r : List Int) :
    (r.eraseDups.length == r.length && r.all fun i => decide (0 ≤ i) && decide (i < (np : Int))) = true ↔
      r.Nodup ∧ ∀ i ∈ r, 0 ≤ i ∧ i < (np : Int) := by
  simp only [Bool.and_eq_true, beq_iff_eq, eraseDups_length_eq_iff, List.all_eq_true, decide_eq_true_eq]

theorem length_boolsOf {np : Nat} {context : List (List Int)} : (boolsOf np context).length = context.length :=
  List.length_map _

theorem length_of_mem_boolsOf {np : Nat} {context : List (List Int)} {row : List Bool}
    (h : row ∈ boolsOf np context) : row.length = np := by
  obtain ⟨r, _, rfl⟩ := List.mem_map.mp h; exact (List.length_map _).trans List.length_range

/-- all guards of `fromdict`, as the Boolean the code computes -/
def fromdictGuard (d : SDict) (req : Bool) (objects properties : List SName) (context : List (List Int)) : Bool :=
  objects.all SName.isStr && properties.all SName.isStr && (context.length == objects.length) &&
  !(req && d.lattice == SLattice.absent) && !(d.lattice == SLattice.empty) &&
  (context.all fun r => r.eraseDups.length == r.length &&
    r.all fun i => decide (0 ≤ i) && decide (i < (properties.length : Int))) &&
  ctorAccepts (strNames objects) (strNames properties) ((boolsOf properties.length context).map (·.length))

/-- all guards of `fromdict` in propositional form (the two length conditions of the constructor hold by
construction of the Boolean rows and are left out) -/
def FromdictOk (d : SDict) (req : Bool) (objects properties : List SName) (context : List (List Int)) : Prop :=
  (∀ v ∈ objects, v.isStr = true) ∧ (∀ v ∈ properties, v.isStr = true) ∧
  context.length = objects.length ∧ (req = true → d.lattice ≠ .absent) ∧ d.lattice ≠ .empty ∧
  (∀ r ∈ context, r.Nodup ∧ ∀ i ∈ r, 0 ≤ i ∧ i < (properties.length : Int)) ∧
  strNames objects ≠ [] ∧ (strNames objects).Nodup ∧ strNames properties ≠ [] ∧
  (strNames properties).Nodup ∧ (∀ x, x ∈ strNames objects → x ∉ strNames properties)

theorem fromdictGuard_iff {d : SDict} {req : Bool} {objects properties : List SName} {context : List (List Int)} :
    fromdictGuard d req objects properties context = true ↔ FromdictOk d req objects properties context := by
  unfold fromdictGuard FromdictOk
  simp only [Bool.and_eq_true, List.all_eq_true, beq_iff_eq, Bool.not_eq_true',
    eraseDups_length_eq_iff, decide_eq_true_eq, ← Bool.not_eq_true, slattice_beq_iff, and_assoc,
    not_and, ne_eq, ctorAccepts_iff, List.length_map, length_boolsOf, List.forall_mem_map]
  refine and_congr_right fun h1 => and_congr_right fun h2 => and_congr_right fun h3 => ?_
  rw [h3, strNames_length h1, strNames_length h2]
  simp only [and_true, iff_true_intro fun _ => length_of_mem_boolsOf]

/-- a guard in front of a guarded value is a guarded value: read from the inside out, this folds the chain
`if c₁ then raise … if cₖ then raise; return v` into `if !c₁ && … && !cₖ then v else raise` -/
theorem guard_chain {α : Type} {c g : Bool} {v : α} :
    (if c = true then .error .valueError else (if g = true then .ok v else .error .valueError) : Except Err α) =
      if (!c && g) = true then .ok v else .error .valueError := by
  cases c <;> rfl

theorem fromdictCheck_some {d : SDict} {req : Bool} {objects properties : List SName} {context : List (List Int)}
    (ho : d.objects = some objects) (hp : d.properties = some properties) (hc : d.context = some context) :
    fromdictCheck d req =
      if fromdictGuard d req objects properties context then
        .ok (strNames objects, strNames properties, boolsOf properties.length context)
      else .error .valueError := by
  unfold fromdictCheck fromdictGuard
  rw [ho, hp, hc]
  simp only [guard_chain, Bool.not_not, bne, Bool.and_assoc]
  rfl

theorem fromdictCheck_cases (d : SDict) (req : Bool) :
    fromdictCheck d req = .error .valueError ∨
    ∃ objects properties context, d.objects = some objects ∧ d.properties = some properties ∧
      d.context = some context ∧ FromdictOk d req objects properties context ∧
      fromdictCheck d req = .ok (strNames objects, strNames properties, boolsOf properties.length context) := by
  rcases ho : d.objects with _ | objects
  · exact Or.inl (by unfold fromdictCheck; rw [ho])
  rcases hp : d.properties with _ | properties
  · exact Or.inl (by unfold fromdictCheck; rw [ho, hp])
  rcases hc : d.context with _ | context
  · exact Or.inl (by unfold fromdictCheck; rw [ho, hp, hc])
  rw [fromdictCheck_some ho hp hc]
  by_cases hg : fromdictGuard d req objects properties context = true
  · exact Or.inr ⟨_, _, _, rfl, rfl, rfl, fromdictGuard_iff.mp hg, if_pos hg⟩
  · exact Or.inl (if_neg hg)

theorem fromdictCheck_eq_ok_iff {d : SDict} {req : Bool} {res : List Name × List Name × List (List Bool)} :
    fromdictCheck d req = .ok res ↔
      ∃ objects properties context, d.objects = some objects ∧ d.properties = some properties ∧
        d.context = some context ∧ FromdictOk d req objects properties context ∧
        res = (strNames objects, strNames properties, boolsOf properties.length context) := by
  constructor
  · intro h
    rcases fromdictCheck_cases d req with h' | ⟨objects, properties, context, ho, hp, hc, hok, h'⟩
    · exact nomatch h'.symm.trans h
    · exact ⟨objects, properties, context, ho, hp, hc, hok, Except.ok.inj (h.symm.trans h')⟩
  · rintro ⟨objects, properties, context, ho, hp, hc, hok, rfl⟩
    rw [fromdictCheck_some ho hp hc, if_pos (fromdictGuard_iff.mpr hok)]

/-! ### the context with its names -/

theorem lctxOfTriple_eq (os ps : List Name) (bools : List (List Bool)) :
    lctxOfTriple os ps bools = (ctxOfTriple os ps bools).map (LCtx.mk os ps) := by
  unfold lctxOfTriple; cases ctxOfTriple os ps bools <;> rfl

end FCA
