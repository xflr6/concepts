import FCA.Proofs.Galois
/-
Closure operators on masks below a width, and the fact behind `lindig.neighbors`: over a closed set
`G` the upper covers are the closures `cl (G ∪ {g})` of the *good* generators `g`, one generator per
cover, and the loop's test on `minimal` decides goodness.
-/
namespace FCA

theorem exists_greatest {P : Nat → Prop} {n : Nat} (hb : ∀ k, P k → k ≤ n) (hex : ∃ k, P k) :
    ∃ g, P g ∧ ∀ k, P k → k ≤ g := by
  classical
  obtain ⟨i, hi⟩ := hex
  exact ⟨Nat.findGreatest P n, Nat.findGreatest_spec (hb i hi) hi, fun k hk => Nat.le_findGreatest (hb k hk) hk⟩

structure IsClo (n : Nat) (cl : Nat → Nat) : Prop where
  sub_cl : ∀ {a}, Bounded n a → a ⊆ᵇ cl a
  mono : ∀ {a b}, a ⊆ᵇ b → cl a ⊆ᵇ cl b
  idem : ∀ a, cl (cl a) = cl a
  bounded : ∀ a, Bounded n (cl a)

namespace IsClo

/-- `covers K` is the instance `K.n`, `K.doubleObj` -/
def Covers (n : Nat) (cl : Nat → Nat) (G D : Nat) : Prop :=
  (Bounded n D ∧ cl D = D) ∧ G ⊆ᵇ D ∧ G ≠ D ∧
    ∀ X, (Bounded n X ∧ cl X = X) → G ⊆ᵇ X → X ⊆ᵇ D → X = G ∨ X = D

/-- `g` is the greatest new element of `cl (G ∪ {g})`, and every new element generates it back -/
structure Good (n : Nat) (cl : Nat → Nat) (G g : Nat) : Prop where
  lt : g < n
  not_mem : ¬ g ∈ᵇ G
  max : ∀ h, h ∈ᵇ cl (G ||| 2 ^ g) → ¬ h ∈ᵇ G → h ≤ g ∧ g ∈ᵇ cl (G ||| 2 ^ h)

variable {n : Nat} {cl : Nat → Nat} (C : IsClo n cl)
include C

theorem bounded_of_closed {D : Nat} (hD : cl D = D) : Bounded n D := hD ▸ C.bounded D

theorem cl_sub {a D : Nat} (hD : cl D = D) (h : a ⊆ᵇ D) : cl a ⊆ᵇ D := hD ▸ C.mono h

theorem cl_insert_sub_iff {G g D : Nat} (hD : cl D = D) (hG : G ⊆ᵇ D) (hg : g < n) :
    cl (G ||| 2 ^ g) ⊆ᵇ D ↔ g ∈ᵇ D :=
  ⟨fun h => (insert_sub_iff.mp (sub_trans
      (C.sub_cl (bounded_or_pow (bounded_sub hG (C.bounded_of_closed hD)) hg)) h)).2,
   fun h => C.cl_sub hD (insert_sub_iff.mpr ⟨hG, h⟩)⟩

variable {G : Nat} (hG : cl G = G)
include hG

theorem sub_cl_insert {g : Nat} : G ⊆ᵇ cl (G ||| 2 ^ g) :=
  fun i hi => C.mono (fun _ hj => mem_or.mpr (.inl hj)) i (hG.symm ▸ hi)

theorem mem_cl_insert {g : Nat} (hg : g < n) : g ∈ᵇ cl (G ||| 2 ^ g) :=
  (insert_sub_iff.mp (C.sub_cl (bounded_or_pow (C.bounded_of_closed hG) hg))).2

theorem covers_of_good {g : Nat} (hg : Good n cl G g) : Covers n cl G (cl (G ||| 2 ^ g)) := by
  obtain ⟨hgn, hgG, hgood⟩ := hg
  refine ⟨⟨C.bounded _, C.idem _⟩, C.sub_cl_insert hG,
    fun e => hgG (e ▸ C.mem_cl_insert hG hgn), fun X hX hGX hXD => ?_⟩
  by_cases hXG : X = G
  · exact .inl hXG
  · -- a new element `h` of `X` brings `g`, hence all of `cl (G ∪ {g})`
    obtain ⟨h, hhX, hhG⟩ := exists_mem_not_mem hGX (Ne.symm hXG)
    have hgX : g ∈ᵇ X := (C.cl_insert_sub_iff hX.2 hGX (hX.1 h hhX)).mpr hhX g (hgood h (hXD h hhX) hhG).2
    exact .inr (sub_antisymm hXD ((C.cl_insert_sub_iff hX.2 hGX hgn).mpr hgX))

theorem cl_insert_eq_of_covers {D h : Nat} (hD : Covers n cl G D) (hhD : h ∈ᵇ D) (hhG : ¬ h ∈ᵇ G) :
    cl (G ||| 2 ^ h) = D := by
  obtain ⟨⟨hDn, hDc⟩, hGD, _, hmin⟩ := hD
  refine (hmin _ ⟨C.bounded _, C.idem _⟩ (C.sub_cl_insert hG)
    ((C.cl_insert_sub_iff hDc hGD (hDn h hhD)).mpr hhD)).resolve_left fun e => hhG ?_
  exact e ▸ C.mem_cl_insert hG (hDn h hhD)

theorem exists_good_of_covers {D : Nat} (hD : Covers n cl G D) :
    ∃ g, Good n cl G g ∧ cl (G ||| 2 ^ g) = D := by
  have ⟨⟨hDn, _⟩, hGD, hne, _⟩ := hD
  obtain ⟨g, ⟨hgD, hgG⟩, hmax⟩ := exists_greatest (P := fun k => k ∈ᵇ D ∧ ¬ k ∈ᵇ G)
    (fun k hk => le_of_lt (hDn k hk.1)) (exists_mem_not_mem hGD hne)
  have e := C.cl_insert_eq_of_covers hG hD hgD hgG
  refine ⟨g, ⟨hDn g hgD, hgG, fun h hh hhG => ?_⟩, e⟩
  rw [e] at hh
  exact ⟨hmax h ⟨hh, hhG⟩, C.cl_insert_eq_of_covers hG hD hh hhG ▸ hgD⟩

theorem good_unique {g g' : Nat} (hg : Good n cl G g) (hg' : Good n cl G g')
    (e : cl (G ||| 2 ^ g) = cl (G ||| 2 ^ g')) : g = g' :=
  le_antisymm (hg'.max g (e ▸ C.mem_cl_insert hG hg.lt) hg.not_mem).1
    (hg.max g' (e ▸ C.mem_cl_insert hG hg'.lt) hg'.not_mem).1

omit C hG in
/-- the numerically least closed set strictly above `G` inside `X` is ⊆-minimal (`le_of_sub`), hence a cover -/
theorem exists_covers_sub (X : Nat) (hX : Bounded n X ∧ cl X = X) (hGX : G ⊆ᵇ X) (hne : G ≠ X) :
    ∃ D, Covers n cl G D ∧ D ⊆ᵇ X := by
  classical
  have hex : ∃ D, (Bounded n D ∧ cl D = D) ∧ G ⊆ᵇ D ∧ D ⊆ᵇ X ∧ D ≠ G := ⟨X, hX, hGX, sub_refl X, Ne.symm hne⟩
  obtain ⟨hD, hGD, hDX, hDG⟩ := Nat.find_spec hex
  refine ⟨_, ⟨hD, hGD, Ne.symm hDG, fun Y hY hGY hYD => ?_⟩, hDX⟩
  by_cases hYG : Y = G
  · exact .inl hYG
  · exact .inr (le_antisymm (le_of_sub hYD) (Nat.find_min' hex ⟨hY, hGY, sub_trans hYD hDX, hYG⟩))

/-- the test of the loop at candidate `g`: if `min` holds the candidates that are not yet refuted
(those below `g` that are good, and all others), it accepts exactly the good `g` -/
theorem test_iff_good {g min : Nat} (hgn : g < n) (hgG : ¬ g ∈ᵇ G)
    (I : ∀ i, i ∈ᵇ min ↔ (i < n ∧ ¬ i ∈ᵇ G) ∧ (i < g → Good n cl G i)) :
    andNot (cl (G ||| 2 ^ g)) (G ||| 2 ^ g) &&& min = 0 ↔ Good n cl G g := by
  rw [eq_zero_iff]
  simp only [mem_and, mem_andNot, mem_or, mem_pow, not_or, not_and, and_imp, I]
  -- the test passes iff every new element of the closure other than `g` is a candidate below `g` that is not good
  show (∀ i, i ∈ᵇ cl (G ||| 2 ^ g) → ¬ i ∈ᵇ G → ¬ i = g → i < n → ¬ i ∈ᵇ G → ¬ (i < g → Good n cl G i)) ↔
    Good n cl G g
  constructor
  · intro T
    refine ⟨hgn, hgG, fun h hh hhG => ?_⟩
    have hhn : h < n := C.bounded _ h hh
    have key : ∀ s, s ∈ᵇ cl (G ||| 2 ^ g) → ¬ s ∈ᵇ G → s ≠ g → s < g ∧ ¬ Good n cl G s := fun s hs hsG hsg =>
      Classical.not_imp.mp (T s hs hsG hsg (C.bounded _ s hs) hsG)
    refine ⟨?_, by_contra fun hgh => ?_⟩
    · by_cases e : h = g
      · exact le_of_eq e
      · exact le_of_lt (key h hh hhG e).1
    · -- otherwise `cl (G ∪ {h})` holds a cover, whose good generator is a new element other than `g`
      have hsubg : cl (G ||| 2 ^ h) ⊆ᵇ cl (G ||| 2 ^ g) :=
        (C.cl_insert_sub_iff (C.idem _) (C.sub_cl_insert hG) hhn).mpr hh
      obtain ⟨D, hD, hDh⟩ := exists_covers_sub _ ⟨C.bounded _, C.idem _⟩ (C.sub_cl_insert hG)
        fun e => hhG (e ▸ C.mem_cl_insert hG hhn)
      obtain ⟨s, hs, rfl⟩ := C.exists_good_of_covers hG hD
      have hsh := hDh s (C.mem_cl_insert hG hs.lt)
      exact (key s (hsubg s hsh) hs.not_mem fun e => hgh (e ▸ hsh)).2 hs
  · rintro ⟨_, _, hgood⟩ i (hi : i ∈ᵇ cl (G ||| 2 ^ g)) (hiG : ¬ i ∈ᵇ G) (hig : ¬ i = g) (_ : i < n) (_ : ¬ i ∈ᵇ G)
      (hmin : i < g → Good n cl G i)
    have hlt : i < g := lt_of_le_of_ne (hgood i hi hiG).1 hig
    exact absurd ((hmin hlt).max g (hgood i hi hiG).2 hgG).1 (not_le.mpr hlt)

end IsClo

theorem isClo_doubleObj {K : Ctx} (h : K.WF) : IsClo K.n K.doubleObj where
  sub_cl := sub_extent_intent h
  mono := doubleObj_mono
  idem := fun a => extent_intent_extent h (bounded_intentOf a)
  bounded := fun _ => bounded_extentOf _

end FCA
