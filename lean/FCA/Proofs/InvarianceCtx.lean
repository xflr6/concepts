import FCA.Proofs.Invariance
import FCA.Model.Junctors
/-
C15 on contexts. A transformed context is described by a structure; for each, what the two derivations of the
new context are in terms of the old one, and from that the correspondence of concepts. Rows are treated as the
columns of the transposed context.
-/
namespace FCA

theorem transpose_ordCorr (K : Ctx) :
    OrdCorr (isConcept K) (isConcept K.transpose) (· ⊆ᵇ ·) (fun a b => b ⊆ᵇ a) (isConcept K) :=
  ⟨concept_order_dual, concept_extent_unique, concept_intent_unique,
    fun h => ⟨_, _, isConcept_transpose.mp h, isConcept_transpose.mp h⟩⟩

theorem covers_transpose_imp {K : Ctx} {A₁ B₁ A₂ B₂ : Nat}
    (hc : Covers K A₁ B₁ A₂ B₂) : Covers K.transpose B₂ A₂ B₁ A₁ :=
  ⟨isConcept_transpose.mpr hc.2.1, isConcept_transpose.mpr hc.1,
    ((transpose_ordCorr K).covers hc.1 hc.2.1 hc.2.2).flip⟩

theorem isJoin_transpose_iff {K : Ctx} {A₁ B₁ A₂ B₂ A B : Nat} :
    IsJoin K.transpose B₁ A₁ B₂ A₂ B A ↔ IsMeet K A₁ B₁ A₂ B₂ A B :=
  ⟨fun ⟨c1, c2, c, h⟩ => ⟨isConcept_transpose.mp c1, isConcept_transpose.mp c2, isConcept_transpose.mp c,
      (transpose_ordCorr K.transpose).lub c1 c2 c h⟩,
    fun ⟨c1, c2, c, h⟩ => ⟨isConcept_transpose.mpr c1, isConcept_transpose.mpr c2, isConcept_transpose.mpr c,
      (transpose_ordCorr K).flip.lub c1 c2 c h⟩⟩

/-- `K'` is `K` with rows permuted by `σ` and columns permuted by `τ` -/
structure Relabel (K K' : Ctx) (σ σi τ τi : Nat → Nat) : Prop where
  wf : K.WF
  wf' : K'.WF
  hn : K'.n = K.n
  hm : K'.m = K.m
  hσ : PermOn σ σi K.n
  hτ : PermOn τ τi K.m
  hR : ∀ i, i < K.n → ∀ j, j < K.m → (K'.has (σ i) (τ j) ↔ K.has i j)

theorem Relabel.symm {K K' : Ctx} {σ σi τ τi : Nat → Nat} (r : Relabel K K' σ σi τ τi) :
    Relabel K' K σi σ τi τ := by
  obtain ⟨wf, wf', hn, hm, hσ, hτ, hR⟩ := r
  refine ⟨wf', wf, hn.symm, hm.symm, by rw [hn]; exact hσ.symm, by rw [hm]; exact hτ.symm, ?_⟩
  intro i hi j hj
  rw [hn] at hi; rw [hm] at hj
  have := hR (σi i) (hσ.inv_lt hi) (τi j) (hτ.inv_lt hj)
  rw [hσ.apply_inv hi, hτ.apply_inv hj] at this
  exact this.symm

theorem Relabel.transpose {K K' : Ctx} {σ σi τ τi : Nat → Nat} (r : Relabel K K' σ σi τ τi) :
    Relabel K.transpose K'.transpose τ τi σ σi :=
  ⟨transpose_WF r.wf, transpose_WF r.wf', r.hm, r.hn, r.hτ, r.hσ, fun j hj i hi => by
    rw [transpose_has r.wf', transpose_has r.wf]; exact r.hR i hi j hj⟩

theorem Relabel.image_intentOf {K K' : Ctx} {σ σi τ τi : Nat → Nat} (r : Relabel K K' σ σi τ τi)
    {A A' : Nat} (hA : Image σ K.n A A') : Image τ K.m (K.intentOf A) (K'.intentOf A') := by
  refine ⟨bounded_intentOf A, r.hm ▸ bounded_intentOf A', fun j hj => ?_⟩
  rw [mem_intentOf, mem_intentOf, r.hm, and_iff_right hj, and_iff_right (r.hτ.lt hj)]
  constructor
  · intro h i hi
    exact (r.hR i (hA.bounded i hi) j hj).mp (h _ ((hA.mem_iff (hA.bounded i hi)).mpr hi))
  · intro h i' hi'
    have hlt := r.hσ.inv_lt (hA.bounded' i' hi')
    have e := r.hσ.apply_inv (hA.bounded' i' hi')
    exact e ▸ (r.hR _ hlt j hj).mpr (h _ ((hA.mem_iff hlt).mp (e.symm ▸ hi')))

theorem Relabel.concept_imp {K K' : Ctx} {σ σi τ τi : Nat → Nat} (r : Relabel K K' σ σi τ τi)
    {A B A' B' : Nat} (hA : Image σ K.n A A') (hB : Image τ K.m B B')
    (h : isConcept K A B) : isConcept K' A' B' :=
  ⟨r.hn ▸ hA.bounded', r.hm ▸ hB.bounded', Image.unique r.hτ (h.2.2.1 ▸ r.image_intentOf hA) hB,
    Image.unique r.hσ (h.2.2.2 ▸ r.transpose.image_intentOf hB) hA⟩

theorem Relabel.image_symm {K K' : Ctx} {σ σi τ τi : Nat → Nat} (r : Relabel K K' σ σi τ τi)
    {a a' : Nat} (h : Image σ K.n a a') : Image σi K'.n a' a := by
  rw [r.hn]; exact h.symm r.hσ

theorem Relabel.concept_iff {K K' : Ctx} {σ σi τ τi : Nat → Nat} (r : Relabel K K' σ σi τ τi)
    {A B A' B' : Nat} (hA : Image σ K.n A A') (hB : Image τ K.m B B') :
    isConcept K A B ↔ isConcept K' A' B' :=
  ⟨r.concept_imp hA hB, r.symm.concept_imp (r.image_symm hA) (r.transpose.image_symm hB)⟩

theorem Relabel.concept_preimage {K K' : Ctx} {σ σi τ τi : Nat → Nat} (r : Relabel K K' σ σi τ τi)
    {A' B' : Nat} (h : isConcept K' A' B') :
    Image σ K.n (mapMask σi K.n A') A' ∧ Image τ K.m (mapMask τi K.m B') B' ∧
      isConcept K (mapMask σi K.n A') (mapMask τi K.m B') := by
  have bA : Bounded K.n A' := by rw [← r.hn]; exact h.1
  have bB : Bounded K.m B' := by rw [← r.hm]; exact h.2.1
  have iA := (image_mapMask r.hσ.symm bA).symm r.hσ.symm
  have iB := (image_mapMask r.hτ.symm bB).symm r.hτ.symm
  exact ⟨iA, iB, (r.concept_iff iA iB).mpr h⟩

theorem Relabel.ordCorr {K K' : Ctx} {σ σi τ τi : Nat → Nat} (r : Relabel K K' σ σi τ τi) :
    OrdCorr (isConcept K) (isConcept K') (· ⊆ᵇ ·) (· ⊆ᵇ ·) (Image σ K.n) :=
  ⟨Image.sub_iff r.hσ, fun h1 h2 => (Image.eq_iff r.hσ h1 h2).mpr rfl, Image.unique r.hσ,
    fun h => ⟨_, _, (r.concept_preimage h).2.2, (r.concept_preimage h).1⟩⟩

theorem Relabel.image_col {K K' : Ctx} {σ σi τ τi : Nat → Nat} (r : Relabel K K' σ σi τ τi)
    {j : Nat} (hj : j < K.m) : Image σ K.n (K.cols[j]!) (K'.cols[τ j]!) := by
  refine ⟨cols_bounded r.wf j, r.hn ▸ cols_bounded r.wf' _, fun i hi => ?_⟩
  rw [mem_cols r.wf', mem_cols r.wf]; exact r.hR i hi j hj

theorem binaryCode_image {σ σi : Nat → Nat} {n l l' r r' : Nat} (hp : PermOn σ σi n)
    (hl : Image σ n l l') (hr : Image σ n r r') : binaryCode n l' r' = binaryCode n l r := by
  have e1 := (Image.eq_iff hp (hl.and hr) image_zero).not
  have e2 := (Image.eq_iff hp (hl.andNot hp hr) image_zero).not
  have e3 := (Image.eq_iff hp (hr.andNot hp hl) image_zero).not
  have e4 := (Image.eq_iff hp ((image_full hp).andNot hp (hl.or hr)) image_zero).not
  unfold binaryCode
  simp only [e1, e2, e3, e4]

theorem unaryCode_image {σ σi : Nat → Nat} {n c c' : Nat} (hp : PermOn σ σi n)
    (hc : Image σ n c c') : unaryCode n c' = unaryCode n c := by
  have e1 := (Image.eq_iff hp hc image_zero).not
  have e2 := (Image.eq_iff hp hc (image_full hp)).not
  unfold unaryCode
  simp only [e1, e2]

theorem and_full_of_mem_iff {k B B' : Nat} {c : Prop} (hB : Bounded k B)
    (h : ∀ j, j ∈ᵇ B' ↔ j ∈ᵇ B ∨ (j = k ∧ c)) : B' &&& full k = B := ext fun j => by
  rw [mem_and, mem_full, h]
  exact ⟨fun h => h.1.resolve_right fun e => Nat.ne_of_lt h.2 e.1, fun h => ⟨Or.inl h, hB j h⟩⟩

/-- `K'` is `K` plus the new property number `K.m` whose object set is the mask `E`, an extent of `K` -/
structure AddCol (K K' : Ctx) (E : Nat) : Prop where
  wf : K.WF
  wf' : K'.WF
  hn : K'.n = K.n
  hm : K'.m = K.m + 1
  hE : ∃ BE, isConcept K E BE
  hold : ∀ i, i < K.n → ∀ j, j < K.m → (K'.has i j ↔ K.has i j)
  hnew : ∀ i, i < K.n → (K'.has i K.m ↔ i ∈ᵇ E)

namespace AddCol
variable {K K' : Ctx} {E : Nat} (a : AddCol K K' E)
include a

theorem mem_intentOf {A : Nat} (hA : Bounded K.n A) (j : Nat) :
    j ∈ᵇ K'.intentOf A ↔ j ∈ᵇ K.intentOf A ∨ (j = K.m ∧ A ⊆ᵇ E) := by
  rw [FCA.mem_intentOf, FCA.mem_intentOf, a.hm, Nat.lt_succ_iff_lt_or_eq, or_and_right]
  exact or_congr (and_congr_right fun hj => forall₂_congr fun i hi => a.hold i (hA i hi) j hj)
    (and_congr_right fun hj => hj ▸ forall₂_congr fun i hi => a.hnew i (hA i hi))

theorem mem_extentOf {B' : Nat} (hB : Bounded K'.m B') (i : Nat) :
    i ∈ᵇ K'.extentOf B' ↔ i ∈ᵇ K.extentOf (B' &&& full K.m) ∧ (K.m ∈ᵇ B' → i ∈ᵇ E) := by
  rw [FCA.mem_extentOf a.wf', FCA.mem_extentOf a.wf, a.hn, and_assoc]
  refine and_congr_right fun hi => ⟨fun h => ⟨fun j hj => ?_, fun hm => (a.hnew i hi).mp (h _ hm)⟩, fun h j hj => ?_⟩
  · rw [mem_and, mem_full] at hj
    exact (a.hold i hi j hj.2).mp (h j hj.1)
  · rcases Nat.lt_succ_iff_lt_or_eq.mp (a.hm ▸ hB j hj) with hjm | rfl
    · exact (a.hold i hi j hjm).mpr (h.1 j (mem_and.mpr ⟨hj, mem_full.mpr hjm⟩))
    · exact (a.hnew i hi).mpr (h.2 hj)

theorem new_mem {A B' : Nat} (h : isConcept K' A B') : K.m ∈ᵇ B' ↔ A ⊆ᵇ E := by
  rw [← h.2.2.1, a.mem_intentOf (a.hn ▸ h.1), and_iff_right rfl,
    or_iff_right fun hm => Nat.lt_irrefl _ (bounded_intentOf A _ hm)]

theorem fwd {A B B' : Nat} (hB' : ∀ j, j ∈ᵇ B' ↔ j ∈ᵇ B ∨ (j = K.m ∧ A ⊆ᵇ E))
    (h : isConcept K A B) : isConcept K' A B' := by
  obtain ⟨hA, hB, h1, h2⟩ := h
  have hi : K'.intentOf A = B' := ext fun j => by rw [a.mem_intentOf hA, h1, hB']
  have hb : Bounded K'.m B' := hi ▸ bounded_intentOf A
  refine ⟨a.hn ▸ hA, hb, hi, ext fun i => ?_⟩
  rw [a.mem_extentOf hb, and_full_of_mem_iff hB hB', h2, and_iff_left_iff_imp, hB']
  exact fun hiA hm => (hm.resolve_left fun hm => Nat.lt_irrefl _ (hB _ hm)).2 i hiA

theorem bwd {A B' : Nat} (h : isConcept K' A B') : isConcept K A (B' &&& full K.m) := by
  obtain ⟨BE, hE⟩ := a.hE
  have hA : Bounded K.n A := a.hn ▸ h.1
  have hi : K.intentOf A = B' &&& full K.m :=
    (and_full_of_mem_iff (bounded_intentOf A) fun j => h.2.2.1 ▸ a.mem_intentOf hA j).symm
  refine ⟨hA, hi ▸ bounded_intentOf A, hi, ext fun i => ?_⟩
  conv_rhs => rw [← h.2.2.2, a.mem_extentOf h.2.1]
  rw [iff_self_and, a.new_mem h, ← hi]
  -- `A ⊆ E` and `E` is an extent, so the closure of `A` stays inside `E`
  exact fun hi hs => hE.2.2.2 ▸ hE.2.2.1 ▸ extentOf_anti (intentOf_anti hs) i hi
end AddCol

theorem AddCol.extents_iff {K K' : Ctx} {E : Nat} (a : AddCol K K' E) {A : Nat} :
    (∃ B, isConcept K A B) ↔ (∃ B', isConcept K' A B') :=
  ⟨fun ⟨_, h⟩ => ⟨K'.intentOf A, a.fwd (fun j => h.2.2.1 ▸ a.mem_intentOf h.1 j) h⟩,
   fun ⟨_, h⟩ => ⟨_, a.bwd h⟩⟩

theorem ite_and_full_or_pow {k B' : Nat} {c : Prop} [Decidable c] (hB : Bounded (k + 1) B') (hc : c ↔ k ∈ᵇ B') :
    (if c then (B' &&& full k) ||| 2 ^ k else B' &&& full k) = B' := ext fun j => by
  rw [mem_ite_or_pow, mem_and, mem_full, hc]
  exact ⟨fun h => h.elim And.left fun h => h.1 ▸ h.2,
    fun h => (Nat.lt_succ_iff_lt_or_eq.mp (hB j h)).imp (And.intro h) fun e => ⟨e, e ▸ h⟩⟩

theorem AddCol.card {K K' : Ctx} {E : Nat} (a : AddCol K K' E) :
    (conceptSet K').card = (conceptSet K).card :=
  conceptSet_card_eq_of_extents fun _ => a.extents_iff

/-- `K'` is `K` plus a copy (number `K.m`) of property `j₀` -/
structure DupCol (K K' : Ctx) (j₀ : Nat) : Prop where
  wf : K.WF
  wf' : K'.WF
  hn : K'.n = K.n
  hm : K'.m = K.m + 1
  hj : j₀ < K.m
  hold : ∀ i, i < K.n → ∀ j, j < K.m → (K'.has i j ↔ K.has i j)
  hnew : ∀ i, i < K.n → (K'.has i K.m ↔ K.has i j₀)

theorem DupCol.addCol {K K' : Ctx} {j₀ : Nat} (d : DupCol K K' j₀) :
    AddCol K K' (K.extentOf (2 ^ j₀)) :=
  ⟨d.wf, d.wf', d.hn, d.hm, ⟨_, isConcept_iff_closed.mpr ⟨attrConcept_closed d.wf d.hj, rfl⟩⟩, d.hold,
    fun i hi => by rw [d.hnew i hi, mem_attrConcept d.wf, and_iff_right hi]⟩

theorem DupCol.sub_iff {K K' : Ctx} {j₀ : Nat} (d : DupCol K K' j₀) {A B : Nat}
    (h : isConcept K A B) : A ⊆ᵇ K.extentOf (2 ^ j₀) ↔ j₀ ∈ᵇ B :=
  h.2.2.1 ▸ sub_attrConcept_iff d.wf d.hj

theorem DupCol.fwd {K K' : Ctx} {j₀ : Nat} (d : DupCol K K' j₀) {A B : Nat}
    (h : isConcept K A B) : isConcept K' A (if j₀ ∈ᵇ B then B ||| 2 ^ K.m else B) :=
  d.addCol.fwd (fun _ => by rw [mem_ite_or_pow, d.sub_iff h]) h

/-- `K'` is `K` plus a property (number `K.m`) that every object has -/
structure FullCol (K K' : Ctx) : Prop where
  wf : K.WF
  wf' : K'.WF
  hn : K'.n = K.n
  hm : K'.m = K.m + 1
  hold : ∀ i, i < K.n → ∀ j, j < K.m → (K'.has i j ↔ K.has i j)
  hnew : ∀ i, i < K.n → K'.has i K.m

theorem FullCol.addCol {K K' : Ctx} (d : FullCol K K') : AddCol K K' (full K.n) :=
  ⟨d.wf, d.wf', d.hn, d.hm, ⟨_, isConcept_iff_closed.mpr ⟨full_closed d.wf, rfl⟩⟩, d.hold,
    fun i hi => iff_of_true (d.hnew i hi) (mem_full.mpr hi)⟩

/-- `K'` is `K` plus a copy (number `K.n`) of object `i₀` -/
structure DupRow (K K' : Ctx) (i₀ : Nat) : Prop where
  wf : K.WF
  wf' : K'.WF
  hn : K'.n = K.n + 1
  hm : K'.m = K.m
  hi : i₀ < K.n
  hold : ∀ i, i < K.n → ∀ j, j < K.m → (K'.has i j ↔ K.has i j)
  hnew : ∀ j, j < K.m → (K'.has K.n j ↔ K.has i₀ j)

theorem DupRow.transpose {K K' : Ctx} {i₀ : Nat} (d : DupRow K K' i₀) :
    DupCol K.transpose K'.transpose i₀ := by
  refine ⟨transpose_WF d.wf, transpose_WF d.wf', d.hm, d.hn, d.hi, ?_, ?_⟩
  · intro j hj i hi
    rw [transpose_has d.wf', transpose_has d.wf]
    exact d.hold i hi j hj
  · intro j hj
    rw [transpose_has d.wf', transpose_has d.wf]
    exact d.hnew j hj

end FCA
