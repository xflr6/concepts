import FCA.Proofs.DefnTranspose
namespace FCA

/-! ### the invariant -/

def Defn.Inv (d : Defn) : Prop :=
  d.objs.Nodup ∧ d.props.Nodup ∧ d.pairs.Nodup ∧ ∀ o p, (o, p) ∈ d.pairs → o ∈ d.objs ∧ p ∈ d.props

/-- the last clause over the cells of the list, which makes the invariant decidable -/
theorem Defn.inv_iff (d : Defn) : d.Inv ↔
    d.objs.Nodup ∧ d.props.Nodup ∧ d.pairs.Nodup ∧ ∀ q ∈ d.pairs, q.1 ∈ d.objs ∧ q.2 ∈ d.props :=
  and_congr_right fun _ => and_congr_right fun _ => and_congr_right fun _ =>
    ⟨fun h q hq => h q.1 q.2 hq, fun h o p hop => h (o, p) hop⟩

instance (d : Defn) : Decidable d.Inv := decidable_of_iff _ d.inv_iff.symm

theorem Defn.Inv.mem {d : Defn} (h : d.Inv) {o p : Name} (hc : (o, p) ∈ d.pairs) : o ∈ d.objs ∧ p ∈ d.props :=
  h.2.2.2 o p hc

def Op.operandInv : Op → Prop
  | .unionUpdate other _ => other.Inv
  | .intersectionUpdate other _ => other.Inv
  | _ => True

theorem Defn.inv_empty : Defn.empty.Inv := by simp [Defn.Inv, Defn.empty]

theorem Defn.inv_comprehension {os ps : List Name} (c : Name → Name → Bool) (ho : os.Nodup) (hp : ps.Nodup) :
    Defn.Inv ⟨os, ps, os.flatMap fun o => ps.filterMap fun p => if c o p then some (o, p) else none⟩ :=
  ⟨ho, hp, nodup_comprehension c ho hp, fun _ _ h => ⟨(mem_comprehension.mp h).1, (mem_comprehension.mp h).2.1⟩⟩

theorem Defn.Inv.transposed {d : Defn} (h : d.Inv) : d.transposed.Inv :=
  ⟨h.2.1, h.1, h.2.2.1.map Prod.swap_injective,
    fun _ _ hop => (h.mem (mem_transposed.mp hop)).symm⟩

theorem Op.operandInv_of_swap {op : Op} (h : op.swap.operandInv) : op.operandInv := by
  cases op with
  | unionUpdate other ig => exact transposed_transposed other ▸ Defn.Inv.transposed h
  | intersectionUpdate other ig => exact transposed_transposed other ▸ Defn.Inv.transposed h
  | _ => trivial

/-! ### an accepted call in explicit form

`mem_renameObj`, `mem_removeObj` are for `rw` / `simp only` right after `obtain … := step_…_ok hs`, while the cell list
still is the model's `map` / `filter` term: the default simp set rewrites inside that term first and then they no longer match. -/

theorem mem_renameObj {pairs : List Cell} {old new a b : Name} :
    (a, b) ∈ pairs.map (fun (o, p) => if o == old then (new, p) else (o, p)) ↔
      ((a, b) ∈ pairs ∧ a ≠ old) ∨ (a = new ∧ (old, b) ∈ pairs) := by
  simp only [List.mem_map, Prod.exists]
  constructor
  · rintro ⟨o, p, hop, heq⟩
    by_cases h : o = old
    · rw [if_pos (beq_iff_eq.mpr h)] at heq; cases heq; exact Or.inr ⟨rfl, h ▸ hop⟩
    · rw [if_neg (by rwa [beq_iff_eq])] at heq; cases heq; exact Or.inl ⟨hop, h⟩
  · rintro (⟨hab, hne⟩ | ⟨rfl, hob⟩)
    · exact ⟨a, b, hab, if_neg (by rwa [beq_iff_eq])⟩
    · exact ⟨old, b, hob, if_pos (beq_self_eq_true old)⟩

theorem nodup_renameObj {pairs : List Cell} {old new : Name} (h : pairs.Nodup)
    (hn : ∀ b, (new, b) ∉ pairs) :
    (pairs.map (fun (o, p) => if o == old then (new, p) else (o, p))).Nodup := by
  refine List.Nodup.map_on ?_ h
  rintro ⟨o1, p1⟩ h1 ⟨o2, p2⟩ h2 heq
  simp only at heq
  by_cases e1 : o1 = old <;> by_cases e2 : o2 = old
  · rw [if_pos (beq_iff_eq.mpr e1), if_pos (beq_iff_eq.mpr e2)] at heq; rw [e1, e2, (Prod.mk.inj heq).2]
  · rw [if_pos (beq_iff_eq.mpr e1), if_neg (by rwa [beq_iff_eq])] at heq; exact absurd (heq ▸ h2) (hn _)
  · rw [if_neg (by rwa [beq_iff_eq]), if_pos (beq_iff_eq.mpr e2)] at heq; exact absurd (heq ▸ h1) (hn _)
  · rwa [if_neg (by rwa [beq_iff_eq]), if_neg (by rwa [beq_iff_eq])] at heq

theorem mem_removeObj {d : Defn} {o a b : Name} :
    (a, b) ∈ d.pairs.filter (fun (o', p) => !(o' == o && d.props.contains p)) ↔
      (a, b) ∈ d.pairs ∧ ¬(a = o ∧ b ∈ d.props) := by
  simp only [List.mem_filter, Bool.not_eq_true', Bool.and_eq_false_iff, beq_eq_false_iff_ne,
    List.contains_eq_mem, decide_eq_false_iff_not, not_and_or, ne_eq]

/-- the names `remove_empty_objects` returns -/
theorem mem_emptyObjs {objs : List Name} {pairs : List Cell} {o : Name} :
    o ∈ (objs.filter fun o => !(pairs.any fun (o', _) => o' == o)) ↔ o ∈ objs ∧ ∀ p, (o, p) ∉ pairs := by
  simp only [List.mem_filter, Bool.not_eq_true', List.any_eq_false, Prod.forall, beq_iff_eq]
  exact and_congr_right fun _ => ⟨fun h p hp => h o p hp rfl, fun h a b hab e => h b (e ▸ hab)⟩

theorem step_renameObject_ok {d d' : Defn} {old new : Name} {r : List Name}
    (h : d.step (.renameObject old new) = .ok (d', r)) :
    new ∉ d.objs ∧ old ∈ d.objs ∧ r = [] ∧
    d' = ⟨d.objs.map fun x => if x == old then new else x, d.props,
          d.pairs.map fun (o, p) => if o == old then (new, p) else (o, p)⟩ := by
  simp only [Defn.step, uReplace_eq] at h
  by_cases hc : new ∈ d.objs ∨ old ∉ d.objs
  · rw [if_pos hc] at h; cases h
  · rw [if_neg hc] at h; cases h
    exact ⟨fun hn => hc (Or.inl hn), by_contra fun ho => hc (Or.inr ho), rfl, rfl⟩

theorem step_moveObject_ok {d d' : Defn} {o : Name} {i : Int} {r : List Name}
    (h : d.step (.moveObject o i) = .ok (d', r)) :
    ∃ l, uMove d.objs o i = .ok l ∧ d' = ⟨l, d.props, d.pairs⟩ ∧ r = [] := by
  simp only [Defn.step, bind, Except.bind] at h
  cases hu : uMove d.objs o i with
  | error e => rw [hu] at h; cases h
  | ok l => rw [hu] at h; cases h; exact ⟨l, rfl, rfl, rfl⟩

theorem step_removeObject_ok {d d' : Defn} {o : Name} {r : List Name}
    (h : d.step (.removeObject o) = .ok (d', r)) :
    o ∈ d.objs ∧ r = [] ∧
    d' = ⟨d.objs.filter (· != o), d.props,
          d.pairs.filter fun (o', p) => !(o' == o && d.props.contains p)⟩ := by
  simp only [Defn.step] at h
  split at h
  · rename_i hc
    rw [List.contains_iff_mem] at hc
    cases h
    exact ⟨hc, rfl, rfl⟩
  · cases h

theorem step_unionUpdate_ok {d d' other : Defn} {ig : Bool} {r : List Name}
    (h : d.step (.unionUpdate other ig) = .ok (d', r)) :
    r = [] ∧ d' = ⟨uIor d.objs other.objs, uIor d.props other.props, other.pairs.foldl pAdd d.pairs⟩ := by
  simp only [Defn.step] at h
  split at h
  · cases h
  · cases h; exact ⟨rfl, rfl⟩

theorem step_intersectionUpdate_ok {d d' other : Defn} {ig : Bool} {r : List Name}
    (h : d.step (.intersectionUpdate other ig) = .ok (d', r)) :
    r = [] ∧ d' = ⟨uIand d.objs other.objs, uIand d.props other.props,
                   d.pairs.filter other.pairs.contains⟩ := by
  simp only [Defn.step] at h
  split at h
  · cases h
  · cases h; exact ⟨rfl, rfl⟩

/-! ### every accepted call keeps the invariant -/

/-- in each case the three lists stay duplicate free by the lemma of the primitive used, and a cell of the
result is an old cell (inside the old names, which are kept) or a new one (whose names the call has just added) -/
theorem inv_step {d d' : Defn} {op : Op} {r : List Name} (h : d.Inv) (hop : op.operandInv)
    (hs : d.step op = .ok (d', r)) : d'.Inv := by
  induction op using Op.axisRec generalizing d d' r with
  | swap op ih => exact transposed_transposed d' ▸ (ih h.transposed (Op.operandInv_of_swap hop) (step_swap_ok hs)).transposed
  | setItem o p v =>
    obtain ⟨h1, h2, h3, h4⟩ := h
    cases hs
    refine ⟨nodup_uAdd h1, nodup_uAdd h2, ?_, fun a b hab => ?_⟩
    · cases v
      · exact nodup_pDiscard h3
      · exact nodup_pAdd h3
    · rw [mem_setCell] at hab
      split at hab
      · rename_i heq; cases heq; exact ⟨mem_uAdd.mpr (Or.inr rfl), mem_uAdd.mpr (Or.inr rfl)⟩
      · exact ⟨mem_uAdd.mpr (Or.inl (h4 a b hab).1), mem_uAdd.mpr (Or.inl (h4 a b hab).2)⟩
  | renameObject old new =>
    obtain ⟨h1, h2, h3, h4⟩ := h
    obtain ⟨hn, _, _, rfl⟩ := step_renameObject_ok hs
    refine ⟨nodup_replace h1 hn, h2, nodup_renameObj h3 (fun b hb => hn (h4 _ _ hb).1), fun a b hab => ?_⟩
    rw [mem_renameObj] at hab
    simp only [mem_replace]
    rcases hab with ⟨hab, hne⟩ | ⟨rfl, hob⟩
    · exact ⟨Or.inl ⟨(h4 _ _ hab).1, hne⟩, (h4 _ _ hab).2⟩
    · exact ⟨Or.inr ⟨rfl, (h4 _ _ hob).1⟩, (h4 _ _ hob).2⟩
  | moveObject o i =>
    obtain ⟨h1, h2, h3, h4⟩ := h
    obtain ⟨l, hu, rfl, _⟩ := step_moveObject_ok hs
    have hp := uMove_perm hu
    exact ⟨hp.nodup_iff.mpr h1, h2, h3, fun a b hab => ⟨hp.mem_iff.mpr (h4 a b hab).1, (h4 a b hab).2⟩⟩
  | addObject o ps =>
    obtain ⟨h1, h2, h3, h4⟩ := h
    cases hs
    refine ⟨nodup_uAdd h1, nodup_uIor h2, List.foldlRecOn ps _ h3 fun _ hb _ _ => nodup_pAdd hb, fun a b hab => ?_⟩
    simp only [mem_uAdd, mem_uIor]
    rcases mem_foldl_pAdd_row.mp hab with hab | ⟨rfl, hb⟩
    · exact ⟨Or.inl (h4 a b hab).1, Or.inl (h4 a b hab).2⟩
    · exact ⟨Or.inr rfl, Or.inr hb⟩
  | removeObject o =>
    obtain ⟨h1, h2, h3, h4⟩ := h
    obtain ⟨_, _, rfl⟩ := step_removeObject_ok hs
    refine ⟨h1.filter _, h2, h3.filter _, fun a b hab => ?_⟩
    rw [mem_removeObj] at hab
    have := h4 a b hab.1
    simp only [List.mem_filter, bne_iff_ne]
    exact ⟨⟨this.1, fun ha => hab.2 ⟨ha, this.2⟩⟩, this.2⟩
  | removeEmptyObjects =>
    obtain ⟨h1, h2, h3, h4⟩ := h
    cases hs
    refine ⟨h1.filter _, h2, h3, fun a b hab => ⟨List.mem_filter.mpr ⟨(h4 a b hab).1, ?_⟩, (h4 a b hab).2⟩⟩
    -- `a` has the true cell `(a, b)`, so it is not among the empty objects
    rw [Bool.not_eq_true', ← Bool.not_eq_true, List.contains_iff_mem, mem_emptyObjs]
    exact fun he => he.2 b hab
  | setObject o ps =>
    obtain ⟨h1, h2, h3, h4⟩ := h
    cases hs
    refine ⟨nodup_uAdd h1, nodup_uIor h2,
      List.foldlRecOn _ _ h3 fun acc hacc p _ => by split; exact nodup_pAdd hacc; exact nodup_pDiscard hacc,
      fun a b hab => ?_⟩
    rw [mem_foldl_setRow] at hab
    simp only [mem_uAdd, mem_uIor] at hab ⊢
    split at hab
    · rename_i hc; exact ⟨Or.inr hc.1, Or.inr hab⟩
    · exact ⟨Or.inl (h4 a b hab).1, Or.inl (h4 a b hab).2⟩
  | unionUpdate other ig =>
    obtain ⟨h1, h2, h3, h4⟩ := h
    obtain ⟨_, rfl⟩ := step_unionUpdate_ok hs
    refine ⟨nodup_uIor h1, nodup_uIor h2, List.foldlRecOn _ _ h3 fun _ hb _ _ => nodup_pAdd hb, fun a b hab => ?_⟩
    simp only [mem_uIor]
    rcases mem_foldl_pAdd.mp hab with hab | hab
    · exact ⟨Or.inl (h4 a b hab).1, Or.inl (h4 a b hab).2⟩
    · exact ⟨Or.inr (Defn.Inv.mem hop hab).1, Or.inr (Defn.Inv.mem hop hab).2⟩
  | intersectionUpdate other ig =>
    obtain ⟨h1, h2, h3, h4⟩ := h
    obtain ⟨_, rfl⟩ := step_intersectionUpdate_ok hs
    refine ⟨nodup_uIand h1, nodup_uIand h2, h3.filter _, fun a b hab => ?_⟩
    simp only [List.mem_filter, List.contains_iff_mem] at hab
    simp only [mem_uIand]
    exact ⟨⟨(h4 a b hab.1).1, (Defn.Inv.mem hop hab.2).1⟩, (h4 a b hab.1).2, (Defn.Inv.mem hop hab.2).2⟩

/-! ### which calls are rejected, with which class, and what the accepted ones return -/

def Op.rejectedBy (d : Defn) : Op → Prop
  | .renameObject old new => new ∈ d.objs ∨ old ∉ d.objs
  | .renameProperty old new => new ∈ d.props ∨ old ∉ d.props
  | .moveObject o _ => o ∉ d.objs
  | .moveProperty p _ => p ∉ d.props
  | .removeObject o => o ∉ d.objs
  | .removeProperty p => p ∉ d.props
  | .unionUpdate other ig => ig = false ∧ Conflict d other
  | .intersectionUpdate other ig => ig = false ∧ Conflict d other
  | _ => False

def Op.errClass : Op → Err
  | .removeObject _ => .keyError
  | .removeProperty _ => .keyError
  | _ => .valueError

def Op.returnsNames : Op → Bool
  | .removeEmptyObjects => true
  | .removeEmptyProperties => true
  | _ => false

theorem step_total (d : Defn) (op : Op) :
    (op.rejectedBy d ∧ d.step op = .error op.errClass) ∨
    (¬op.rejectedBy d ∧ ∃ d' r, d.step op = .ok (d', r) ∧ (op.returnsNames = false → r = [])) := by
  cases op with
  | setItem o p v => exact Or.inr ⟨id, _, _, rfl, fun _ => rfl⟩
  | renameObject old new =>
    by_cases h : new ∈ d.objs ∨ old ∉ d.objs
    · exact Or.inl ⟨h, show (uReplace d.objs old new >>= _) = _ by rw [uReplace_eq, if_pos h]; rfl⟩
    · exact Or.inr ⟨h, _, _, show (uReplace d.objs old new >>= _) = _ by rw [uReplace_eq, if_neg h]; rfl, fun _ => rfl⟩
  | renameProperty old new =>
    by_cases h : new ∈ d.props ∨ old ∉ d.props
    · exact Or.inl ⟨h, show (uReplace d.props old new >>= _) = _ by rw [uReplace_eq, if_pos h]; rfl⟩
    · exact Or.inr ⟨h, _, _, show (uReplace d.props old new >>= _) = _ by rw [uReplace_eq, if_neg h]; rfl, fun _ => rfl⟩
  | moveObject o i =>
    by_cases h : o ∈ d.objs
    · exact Or.inr ⟨not_not_intro h, _, _, show (uMove d.objs o i >>= _) = _ by rw [uMove_eq, if_pos h]; rfl, fun _ => rfl⟩
    · exact Or.inl ⟨h, show (uMove d.objs o i >>= _) = _ by rw [uMove_eq, if_neg h]; rfl⟩
  | moveProperty p i =>
    by_cases h : p ∈ d.props
    · exact Or.inr ⟨not_not_intro h, _, _, show (uMove d.props p i >>= _) = _ by rw [uMove_eq, if_pos h]; rfl, fun _ => rfl⟩
    · exact Or.inl ⟨h, show (uMove d.props p i >>= _) = _ by rw [uMove_eq, if_neg h]; rfl⟩
  | addObject o ps => exact Or.inr ⟨id, _, _, rfl, fun _ => rfl⟩
  | addProperty p os => exact Or.inr ⟨id, _, _, rfl, fun _ => rfl⟩
  | removeObject o =>
    by_cases h : o ∈ d.objs
    · exact Or.inr ⟨not_not_intro h, _, _, if_pos (List.contains_iff_mem.mpr h), fun _ => rfl⟩
    · exact Or.inl ⟨h, if_neg fun hc => h (List.contains_iff_mem.mp hc)⟩
  | removeProperty p =>
    by_cases h : p ∈ d.props
    · exact Or.inr ⟨not_not_intro h, _, _, if_pos (List.contains_iff_mem.mpr h), fun _ => rfl⟩
    · exact Or.inl ⟨h, if_neg fun hc => h (List.contains_iff_mem.mp hc)⟩
  | removeEmptyObjects => exact Or.inr ⟨id, _, _, rfl, fun h => nomatch h⟩
  | removeEmptyProperties => exact Or.inr ⟨id, _, _, rfl, fun h => nomatch h⟩
  | setObject o ps => exact Or.inr ⟨id, _, _, rfl, fun _ => rfl⟩
  | setProperty p os => exact Or.inr ⟨id, _, _, rfl, fun _ => rfl⟩
  | unionUpdate other ig =>
    by_cases h : (!ig && !(conflicts d other).isEmpty) = true
    · exact Or.inl ⟨conflictGuard_iff.mp h, if_pos h⟩
    · exact Or.inr ⟨fun hr => h (conflictGuard_iff.mpr hr), _, _, if_neg h, fun _ => rfl⟩
  | intersectionUpdate other ig =>
    by_cases h : (!ig && !(conflicts d other).isEmpty) = true
    · exact Or.inl ⟨conflictGuard_iff.mp h, if_pos h⟩
    · exact Or.inr ⟨fun hr => h (conflictGuard_iff.mpr hr), _, _, if_neg h, fun _ => rfl⟩

theorem step_error_iff {d : Defn} {op : Op} {err : Err} :
    d.step op = .error err ↔ err = op.errClass ∧ op.rejectedBy d := by
  rcases step_total d op with ⟨hr, he⟩ | ⟨hr, d', r, hs, _⟩
  · rw [he]; exact ⟨fun h => ⟨(Except.error.inj h).symm, hr⟩, fun h => h.1 ▸ rfl⟩
  · rw [hs]; exact ⟨fun h => (nomatch h), fun h => absurd h.2 hr⟩

/-! ### edit histories -/

/-- a rejected call raises and leaves the definition unchanged -/
def Defn.runHistory (d : Defn) : List Op → Defn
  | [] => d
  | op :: ops =>
    match d.step op with
    | .ok (d', _) => d'.runHistory ops
    | .error _ => d.runHistory ops

def Defn.runHistoryStrict (d : Defn) : List Op → Except Err Defn
  | [] => .ok d
  | op :: ops =>
    match d.step op with
    | .ok (d', _) => d'.runHistoryStrict ops
    | .error e => .error e

/-- a history accepted call by call is the history with rejected calls skipped -/
theorem runHistory_of_strict {d d' : Defn} {ops : List Op} (hr : d.runHistoryStrict ops = .ok d') :
    d.runHistory ops = d' := by
  induction ops generalizing d with
  | nil => exact Except.ok.inj hr
  | cons op ops ih =>
    unfold Defn.runHistoryStrict at hr
    unfold Defn.runHistory
    split at hr
    · exact ih hr
    · cases hr

def Defn.runTrace (d : Defn) : List Op → Defn × List (Except Err (List Name))
  | [] => (d, [])
  | op :: ops =>
    match d.step op with
    | .ok (d', r) => let (d'', rs) := d'.runTrace ops; (d'', .ok r :: rs)
    | .error e => let (d'', rs) := d.runTrace ops; (d'', .error e :: rs)

end FCA
