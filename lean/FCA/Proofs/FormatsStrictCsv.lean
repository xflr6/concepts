import FCA.Proofs.FormatsCsvLoad
/-
The strict RFC 4180 automaton (`rfcRecords`) reads the records of every CR LF terminated text of
the writer family of `FormatsCsv`, and the strict csv reader (`strictCsv`) recovers the triple from
`dumpCsv`.
-/
namespace FCA

section steps
variable {fld : Str} {row : List Str} {rest : Str}

theorem rfcGo_recStart_char {c : Char} (h1 : c ≠ '\n') (h2 : c ≠ '\r') :
    rfcGo .recStart fld row (c :: rest) = rfcGo .fieldStart fld row (c :: rest) := by
  simp [rfcGo, h1, h2]

theorem rfcGo_plain_char {c : Char} (hc : csvSpecial c = false) :
    rfcGo .plain fld row (c :: rest) = rfcGo .plain (c :: fld) row rest ∧
    rfcGo .fieldStart fld row (c :: rest) = rfcGo .plain [c] row rest := by
  obtain ⟨h1, h2, h3, h4⟩ := csvSpecial_eq_false.1 hc
  simp [rfcGo, h1, h2, h3, h4]

theorem rfcGo_quoted_char {c : Char} (h : c ≠ '"') :
    rfcGo .quoted fld row (c :: rest) = rfcGo .quoted (c :: fld) row rest := by
  simp [rfcGo, h]

theorem rfcGo_quoted_quote :
    rfcGo .quoted fld row ('"' :: rest) = rfcGo .quoteSeen fld row rest := rfl

theorem rfcGo_quoteSeen_quote :
    rfcGo .quoteSeen fld row ('"' :: rest) = rfcGo .quoted ('"' :: fld) row rest := rfl

theorem rfcGo_fieldStart_quote :
    rfcGo .fieldStart fld row ('"' :: rest) = rfcGo .quoted [] row rest := rfl

end steps

theorem rfcGo_plain_run (s : Str) (hs : ∀ c ∈ s, csvSpecial c = false)
    (fld : Str) (row : List Str) (rest : Str) :
    rfcGo .plain fld row (s ++ rest) = rfcGo .plain (s.reverse ++ fld) row rest := by
  induction s generalizing fld with
  | nil => rfl
  | cons c cs ih =>
    rw [List.cons_append, (rfcGo_plain_char (hs c (by simp))).1,
      ih (fun x hx => hs x (by simp [hx]))]
    simp

theorem rfcGo_quoted_run (s : Str) (fld : Str) (row : List Str) (rest : Str) :
    rfcGo .quoted fld row (csvEsc s ++ rest) = rfcGo .quoted (s.reverse ++ fld) row rest := by
  induction s generalizing fld with
  | nil => rfl
  | cons c cs ih =>
    by_cases hc : c = '"'
    · subst hc
      rw [csvEsc_cons_quote, List.cons_append, List.cons_append, rfcGo_quoted_quote,
        rfcGo_quoteSeen_quote, ih]
      simp
    · rw [csvEsc_cons_char hc, List.cons_append, rfcGo_quoted_char hc, ih]
      simp

/-- the automaton has seen a complete field but not yet its delimiter (`fieldStart`: the empty
non-escaped field) -/
def RfcDone (st : RfcState) (fld : Str) : Prop :=
  st = .plain ∨ st = .quoteSeen ∨ (st = .fieldStart ∧ fld = [])

theorem rfcGo_field (q : Bool) (f : Str) (row : List Str) :
    ∃ st, RfcDone st f.reverse ∧
      ∀ rest, rfcGo .fieldStart [] row (csvFieldQ q f ++ rest) = rfcGo st f.reverse row rest := by
  rcases csvFieldQ_cases q f with h | ⟨h, hs⟩ <;> rw [h]
  · refine ⟨.quoteSeen, Or.inr (Or.inl rfl), fun rest => ?_⟩
    rw [List.cons_append, List.append_assoc, rfcGo_fieldStart_quote, rfcGo_quoted_run,
      List.singleton_append, rfcGo_quoted_quote, List.append_nil]
  · cases f with
    | nil => exact ⟨.fieldStart, Or.inr (Or.inr ⟨rfl, rfl⟩), fun rest => rfl⟩
    | cons c cs =>
      refine ⟨.plain, Or.inl rfl, fun rest => ?_⟩
      rw [List.cons_append, (rfcGo_plain_char (hs c (by simp))).2,
        rfcGo_plain_run cs (fun x hx => hs x (by simp [hx]))]
      simp

theorem rfcGo_comma {st : RfcState} {fld : Str} (h : RfcDone st fld) (row : List Str) (rest : Str) :
    rfcGo st fld row (',' :: rest) = rfcGo .fieldStart [] (row ++ [fld.reverse]) rest := by
  rcases h with rfl | rfl | ⟨rfl, rfl⟩ <;> rfl

theorem rfcGo_crlf {st : RfcState} {fld : Str} (h : RfcDone st fld) (row : List Str) (rest : Str) :
    rfcGo st fld row ('\r' :: '\n' :: rest) =
      (rfcGo .recStart [] [] rest).map ((row ++ [fld.reverse]) :: ·) := by
  rcases h with rfl | rfl | ⟨rfl, rfl⟩ <;> rfl

theorem rfcGo_body (fields : List (Bool × Str)) (hne : fields ≠ []) (row : List Str) (rest : Str) :
    rfcGo .fieldStart [] row (csvBodyQ fields ++ ('\r' :: '\n' :: rest)) =
      (rfcGo .recStart [] [] rest).map ((row ++ fields.map (·.2)) :: ·) := by
  induction fields generalizing row with
  | nil => contradiction
  | cons f l ih =>
    obtain ⟨st, hd, hrun⟩ := rfcGo_field f.1 f.2 row
    cases l with
    | nil =>
      rw [csvBodyQ_single, hrun, rfcGo_crlf hd, List.reverse_reverse]
      simp
    | cons g l =>
      rw [csvBodyQ_cons_cons, List.append_assoc, hrun, List.cons_append, rfcGo_comma hd, List.reverse_reverse,
        ih (by simp)]
      simp

theorem rfcGo_row (fields : List (Bool × Str)) (hok : CsvRowOk fields) (rest : Str) :
    rfcGo .recStart [] [] (csvRowQ true fields ++ rest) =
      (rfcGo .recStart [] [] rest).map (fields.map (·.2) :: ·) := by
  rw [csvRowQ_eq, List.append_assoc]
  change rfcGo .recStart [] [] (csvBodyQ fields ++ ('\r' :: '\n' :: rest)) = _
  obtain ⟨c, cs, hc, h1, h2⟩ := csvBodyQ_head hok ('\r' :: '\n' :: rest)
  have := rfcGo_body fields hok.1 [] rest
  rw [hc] at this ⊢
  rw [rfcGo_recStart_char h1 h2, this]
  simp

theorem rfcRecords_textQ (rows : List (List (Bool × Str))) (h : ∀ r ∈ rows, CsvRowOk r) :
    rfcRecords (csvTextQ (rows.map fun r => (true, r))) = some (rows.map fun r => r.map (·.2)) := by
  unfold rfcRecords
  induction rows with
  | nil => rfl
  | cons r rs ih =>
    rw [List.map_cons, csvTextQ, List.flatMap_cons, rfcGo_row r (h r (by simp))]
    rw [csvTextQ] at ih
    rw [ih (fun x hx => h x (by simp [hx]))]
    rfl

theorem rfcRecords_rows (rs : List (List Str)) (h : ∀ r ∈ rs, r ≠ []) :
    rfcRecords (rs.flatMap csvRow) = some rs := by
  rw [csvText_eq]
  have := rfcRecords_textQ (rs.map csvMarks) (by
    intro r hr
    simp only [List.mem_map] at hr
    obtain ⟨x, hx, rfl⟩ := hr
    exact csvMarks_ok (h x hx))
  simp only [List.map_map, Function.comp_def, csvMarks_snd, List.map_id'] at this
  exact this

theorem strictCsv_dumpCsv (asInt : Bool) {objects properties : List Str} {bools : List (List Bool)}
    (hlen : bools.length = objects.length) (hrow : ∀ r ∈ bools, r.length = properties.length) :
    strictCsv asInt (dumpCsv asInt objects properties bools) = some (objects, properties, bools) := by
  have hrec : rfcRecords (dumpCsv asInt objects properties bools) =
      some (csvTable asInt objects properties bools) := by
    rw [dumpCsv_eq, rfcRecords_rows _ csvTable_ne_nil]
  obtain ⟨xs, rfl, rfl, hzip⟩ := exists_rows hlen
  rw [List.forall_mem_map] at hrow
  have hdec : seqOpt ((xs.map fun x => x.1 :: x.2.map (csym asInt)).map
      (strictCsvRow asInt properties.length)) = some xs := by
    refine seqOpt_map_map_id fun x hx => ?_
    have hcells : seqOpt ((x.2.map (csym asInt)).map (strictCsvCell asInt)) = some x.2 :=
      seqOpt_map_map_id fun b _ => by cases asInt <;> cases b <;> decide
    simp only [strictCsvRow, List.length_map, hrow x hx, bne_self_eq_false, Bool.false_eq_true,
      if_false, hcells]
  unfold strictCsv
  rw [hrec, csvTable, hzip]
  dsimp only
  rw [hdec]

end FCA
