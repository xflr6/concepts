import FCA.Proofs.FormatsCxt
/-
The strict reader of the Burmeister format (`strictCxt`, written from the line layout alone)
recovers the triple from `dumpCxt`.
-/
namespace FCA

theorem strictNat_digits (s : Str) (h : s.all Char.isDigit = true) (a : Nat) :
    s.foldl strictDigit (some a) = some (s.foldl (fun a c => 10 * a + (c.toNat - 48)) a) := by
  induction s generalizing a with
  | nil => rfl
  | cons c cs ih =>
    simp only [List.all_cons, Bool.and_eq_true] at h
    have hd : '0' ≤ c ∧ c ≤ '9' := by
      have := h.1
      simp only [Char.isDigit, Bool.and_eq_true, decide_eq_true_eq] at this
      exact ⟨this.1, this.2⟩
    have e : strictDigit (some a) c = some (10 * a + (c.toNat - 48)) := by
      simp only [strictDigit, hd, and_self, if_true]; rfl
    rw [List.foldl_cons, List.foldl_cons, e]
    exact ih h.2 _

theorem strictNat_toString (n : Nat) : strictNat (toString n).toList = some n := by
  rw [strictNat, if_neg (by simp), strictNat_digits _ (List.all_eq_true.2 (isDigit_toString n)),
    foldl_toString_nat]

theorem strictCxt_dumpCxt {objects properties : List Str} {bools : List (List Bool)}
    (hlen : bools.length = objects.length) (hrow : ∀ r ∈ bools, r.length = properties.length)
    (ho : ∀ o ∈ objects, '\n' ∉ o) (hp : ∀ p ∈ properties, '\n' ∉ p) :
    strictCxt (dumpCxt objects properties bools) = some (objects, properties, bools) := by
  have hrs : ∀ r ∈ bools.map rowStr, '\n' ∉ r :=
    List.forall_mem_map.2 fun row _ h => by simpa [isSpace_nl] using isSpace_rowStr row _ h
  -- the numbers as variables: their decimal text is slow to reduce
  have hn := strictNat_toString objects.length
  have hm := strictNat_toString properties.length
  have hnl := nl_not_mem_toString objects.length
  have hml := nl_not_mem_toString properties.length
  rw [dumpCxt_eq]
  generalize (toString objects.length).toList = N at hn hnl
  generalize (toString properties.length).toList = M at hm hml
  have hsplit : splitChar '\n' (unlines (['B'] :: [] :: N :: M :: [] ::
      (objects ++ properties ++ bools.map rowStr))) =
      ['B'] :: [] :: N :: M :: [] :: (objects ++ properties ++ (bools.map rowStr ++ [[]])) := by
    rw [splitChar_unlines]
    · simp only [List.cons_append, List.append_assoc]
    · simp only [List.forall_mem_cons, List.mem_append]
      refine ⟨by decide, by simp, hnl, hml, by simp, ?_⟩
      rintro l ((hl | hl) | hl)
      exacts [ho l hl, hp l hl, hrs l hl]
  obtain ⟨hobjs, hprops, hrest⟩ := cxtBody_parts objects properties (bools.map rowStr ++ [[]])
  have hcount : (objects ++ properties ++ (bools.map rowStr ++ [[]])).length =
      objects.length + properties.length + objects.length + 1 := by
    simp only [List.length_append, List.length_map, hlen, List.length_cons, List.length_nil]; omega
  have hlast : (objects ++ properties ++ (bools.map rowStr ++ [[]])).getLast? = some [] := by
    rw [← List.append_assoc, List.getLast?_append_of_ne_nil _ (List.cons_ne_nil _ _)]; rfl
  have hrows : (bools.map rowStr ++ [[]]).take objects.length = bools.map rowStr :=
    List.take_left' (by rw [List.length_map, hlen])
  unfold strictCxt
  rw [hsplit]
  simp only [bne_self_eq_false, Bool.or_self, Bool.false_eq_true, if_false, hn, hm, hcount, hlast, hobjs, hprops, hrest,
    hrows]
  have hdecode : seqOpt ((bools.map rowStr).map fun r : Str =>
      if (r.length != properties.length) = true then none
      else seqOpt (r.map fun c => if c == 'X' then some true else if c == '.' then some false else none)) =
      some bools := by
    refine seqOpt_map_map_id fun row hr => ?_
    rw [length_rowStr, hrow row hr, decode_rowStr, seqOpt_map_some]
    simp
  rw [hdecode]

end FCA
