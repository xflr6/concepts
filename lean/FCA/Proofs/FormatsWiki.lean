import FCA.Proofs.FormatsTable
/-
Wiki table export: a reference reader written from the layout description
(`{| …`, `!`, `!p1!!p2…`, then per object `|-`, `!object`, `|c1||c2…`, finally `|}`)
recovers objects, properties and cells from `dumpWiki`.
-/
namespace FCA

/-- `s.split(c + c)` -/
def split2 (c : Char) : Str → List Str
  | [] => [[]]
  | [a] => [[a]]
  | a :: b :: cs =>
    if a == c && b == c then [] :: split2 c cs
    else
      match split2 c (b :: cs) with
      | [] => [[]]
      | hd :: tl => (a :: hd) :: tl

theorem split2_ne_nil (c : Char) (s : Str) : split2 c s ≠ [] := by
  fun_induction split2 c s <;> simp_all

theorem split2_cc (c : Char) (s : Str) : split2 c (c :: c :: s) = [] :: split2 c s := by
  rw [split2]; simp

theorem split2_cons_ne {c a : Char} (h : a ≠ c) (s : Str) :
    split2 c (a :: s) = (a :: (split2 c s).headD []) :: (split2 c s).tail := by
  cases s with
  | nil => simp [split2]
  | cons b cs =>
    have h' := split2_ne_nil c (b :: cs)
    rw [split2]
    simp only [beq_iff_eq, h, false_and, if_false, Bool.and_eq_true]
    split
    · contradiction
    · rename_i hd tl heq; simp [heq]

theorem split2_joinWith {c : Char} {parts : List Str} (hne : parts ≠ [])
    (h : ∀ p ∈ parts, c ∉ p) : split2 c (joinWith [c, c] parts) = parts :=
  split_joinWith_of_passes rfl (split2_cc c) hne fun p hp =>
    .of_chars (split2_ne_nil c) fun _ hx => split2_cons_ne fun e => h p hp (e ▸ hx)

/-- object blocks: separator line, `!object`, `|cell||cell…` -/
def readWikiBody : List Str → List (Str × List Bool)
  | _ :: o :: cells :: rest =>
    (o.drop 1, (split2 '|' (cells.drop 1)).map fun c => !(strip c).isEmpty) :: readWikiBody rest
  | _ => []

def readWiki (src : Str) : Option Triple :=
  match splitChar '\n' src with
  | _ :: _ :: props :: rest =>
    let t := readWikiBody rest
    some (t.map (·.1), split2 '!' (props.drop 1), t.map (·.2))
  | _ => none

/-- property label representable in the wiki header line -/
def WikiLabel (s : Str) : Prop := s ≠ [] ∧ '\n' ∉ s ∧ '!' ∉ s

instance (s : Str) : Decidable (WikiLabel s) := by unfold WikiLabel; infer_instance

def wikiBlock (properties : List Str) (x : Str × List Bool) : List Str :=
  [['|', '-'], '!' :: x.1, '|' :: joinWith ['|', '|'] (flagCells properties x.2)]

theorem wikiCells_eq (properties : List Str) (row : List Bool) :
    ((properties.map (·.length)).zip row).map (fun (w, b) => ljust w (if b then ['X'] else [])) =
      flagCells properties row := by
  rw [flagCells_eq, List.zip_map_left, List.map_map]; rfl

theorem dumpWiki_eq (objects properties : List Str) (bools : List (List Bool)) :
    dumpWiki objects properties bools =
      rstripBy isSpace (unlines (["{| class=\"featuresystem\"".toList, ['!'],
        '!' :: joinWith ['!', '!'] properties] ++
        (objects.zip bools).flatMap (wikiBlock properties) ++ [['|', '}']])) := by
  simp only [dumpWiki, wikiCells_eq]
  rfl

theorem readWikiBody_blocks {properties : List Str} (hp : properties ≠ [])
    (hpl : ∀ p ∈ properties, p ≠ []) (l : List (Str × List Bool))
    (hl : ∀ x ∈ l, x.2.length = properties.length) (e : Str) :
    readWikiBody (l.flatMap (wikiBlock properties) ++ [e]) = l := by
  induction l with
  | nil => rfl
  | cons x xs ih =>
    have hlen := hl x (by simp)
    rw [List.flatMap_cons]
    simp only [wikiBlock, List.cons_append, List.nil_append, readWikiBody, List.drop_succ_cons,
      List.drop_zero]
    rw [split2_joinWith (flagCells_ne_nil hp hlen) fun c hc => (flagCells_like hpl hlen c hc).bar,
      decode_flagCells hpl hlen, ih (fun y hy => hl y (by simp [hy]))]

/-- what the first line says is immaterial -/
theorem readWiki_lines {H : Str} (hH : '\n' ∉ H) {objects properties : List Str}
    {bools : List (List Bool)}
    (hpne : properties ≠ []) (hlen : bools.length = objects.length)
    (hrow : ∀ r ∈ bools, r.length = properties.length)
    (ho : ∀ o ∈ objects, '\n' ∉ o) (hp : ∀ p ∈ properties, WikiLabel p) :
    readWiki (rstripBy isSpace (unlines ([H, ['!'], '!' :: joinWith ['!', '!'] properties] ++
      (objects.zip bools).flatMap (wikiBlock properties) ++ [['|', '}']]))) =
      some (objects, properties, bools) := by
  set body := (objects.zip bools).flatMap (wikiBlock properties) with hbody
  set J := joinWith ['!', '!'] properties with hJ
  have hpl : ∀ p ∈ properties, p ≠ [] := fun p h => (hp p h).1
  have hrowlen : ∀ x ∈ objects.zip bools, x.2.length = properties.length := fun x hx =>
    hrow _ (List.of_mem_zip (a := x.1) (b := x.2) hx).2
  have hJnl : '\n' ∉ '!' :: J :=
    List.not_mem_cons_of_ne_of_not_mem (by decide) (not_mem_joinWith (by decide) fun p h => (hp p h).2.1)
  have hbodynl : ∀ l ∈ body, '\n' ∉ l := by
    intro l hl
    simp only [hbody, List.mem_flatMap, wikiBlock, List.mem_cons, List.not_mem_nil, or_false] at hl
    obtain ⟨x, hx, rfl | rfl | rfl⟩ := hl
    · decide
    · exact List.not_mem_cons_of_ne_of_not_mem (by decide) (ho _ (List.of_mem_zip hx).1)
    · exact List.not_mem_cons_of_ne_of_not_mem (by decide) (not_mem_joinWith (by decide) fun c hc =>
        (flagCells_like hpl (hrowlen x hx) c hc).nl)
  have hsplit : splitChar '\n' (rstripBy isSpace (unlines ([H, ['!'], '!' :: J] ++ body ++
      [['|', '}']]))) = H :: ['!'] :: ('!' :: J) :: (body ++ [['|', '}']]) := by
    rw [rstrip_unlines (by rw [getLast?_joinWith_concat _ _ (by simp)]; decide),
      splitChar_joinWith (by simp)]
    · simp
    · simp only [List.forall_mem_append, List.forall_mem_cons, List.not_mem_nil, false_imp_iff,
        implies_true, and_true]
      exact ⟨⟨⟨hH, by decide, hJnl⟩, hbodynl⟩, by decide⟩
  unfold readWiki
  rw [hsplit]
  simp only [List.drop_succ_cons, List.drop_zero]
  rw [hbody, readWikiBody_blocks hpne hpl _ hrowlen, hJ,
    split2_joinWith hpne (fun p h => (hp p h).2.2), List.map_fst_zip (by omega),
    List.map_snd_zip (by omega)]

end FCA
