import FCA.Proofs.PyLiteralStr
import FCA.Proofs.PyLiteralSeq
/-
A document is a display of `LitItem`s, one section each: the flat form of the text `dumpLiteral`
writes, its read-back, and its lines (no printed line contains a line break).
-/
namespace FCA

theorem litKeys_eq :
    litKeyObjects = ['\'', 'o', 'b', 'j', 'e', 'c', 't', 's', '\''] ∧
    litKeyProperties = ['\'', 'p', 'r', 'o', 'p', 'e', 'r', 't', 'i', 'e', 's', '\''] ∧
    litKeyContext = ['\'', 'c', 'o', 'n', 't', 'e', 'x', 't', '\''] ∧
    litKeyLattice = ['\'', 'l', 'a', 't', 't', 'i', 'c', 'e', '\''] := by
  unfold litKeyObjects litKeyProperties litKeyContext litKeyLattice
  repeat rw [String.toList_ofList]
  exact ⟨rfl, rfl, rfl, rfl⟩

/-- a names tuple behind its key: its one line is `'a', 'b'` -/
abbrev litNamesText (printable : Nat → Bool) (names : List Str) : Str :=
  litSeqText '(' ')' [joinWith [',', ' '] (names.map (pyReprStr printable))]

/-- without the comma behind it -/
def litItemText (printable : Nat → Bool) : LitItem → Str
  | .objects v => litKeyObjects ++ [':', ' '] ++ litNamesText printable v
  | .properties v => litKeyProperties ++ [':', ' '] ++ litNamesText printable v
  | .context v => litKeyContext ++ [':', ' '] ++ litSeqText '[' ']' (v.map pyReprIntTuple)
  | .lattice v => litKeyLattice ++ [':', ' '] ++ litSeqText '[' ']' (v.map pyReprEntry)

def litItems (d : LitDoc) : List LitItem :=
  [.objects d.objects, .properties d.properties, .context d.context] ++
    (match d.lattice with
     | none => []
     | some l => [.lattice l])

/-- the dict display as `dump_file` lays it out, one item a line -/
def litDocText (printable : Nat → Bool) (its : List LitItem) : Str :=
  '{' :: '\n' :: (its.flatMap (fun it => [' ', ' '] ++ (litItemText printable it ++ ',' :: ['\n'])) ++
    ['}', '\n'])

/-- the lines `dump_file` prints for one item -/
def litItemSection (printable : Nat → Bool) : LitItem → List Str
  | .objects v => litNamesSection printable litKeyObjects v
  | .properties v => litNamesSection printable litKeyProperties v
  | .context v => litListSection litKeyContext (v.map pyReprIntTuple)
  | .lattice v => litListSection litKeyLattice (v.map pyReprEntry)

theorem dumpLiteralLines_eq (printable : Nat → Bool) (d : LitDoc) :
    dumpLiteralLines printable d =
      ['{'] :: ((litItems d).flatMap (litItemSection printable) ++ [['}']]) := by
  obtain ⟨o, q, c, l⟩ := d
  cases l <;> simp only [dumpLiteralLines, litItems, litItemSection, List.flatMap_cons,
    List.flatMap_nil, List.append_assoc, List.cons_append, List.nil_append, List.append_nil]

theorem unlines_section (key : Str) (opn cls : Char) (lines : List Str) :
    unlines (litSection key opn cls (litItemLines lines)) =
      [' ', ' '] ++ (key ++ [':', ' '] ++ litSeqText opn cls lines ++ ',' :: ['\n']) := by
  simp [unlines, litSection, litItemLines, litSeqText, List.flatMap_map]

theorem unlines_itemSection (printable : Nat → Bool) (it : LitItem) :
    unlines (litItemSection printable it) =
      [' ', ' '] ++ (litItemText printable it ++ ',' :: ['\n']) := by
  cases it <;> simp only [litItemSection, litItemText, litNamesSection, litListSection, unlines_section]

theorem dumpLiteral_flat (printable : Nat → Bool) (d : LitDoc) :
    dumpLiteral printable d = litDocText printable (litItems d) := by
  rw [dumpLiteral, dumpLiteralLines_eq, unlines_cons, unlines, List.flatMap_append,
    List.flatMap_assoc]
  simp only [← unlines.eq_1, unlines_itemSection]
  rfl

theorem readsBack_str (printable : Nat → Bool) (n : Nat) :
    ReadsBack n parseStrLit (pyReprStr printable) fun _ => True where
  head s := by
    refine goodHead_cons ?_ ?_ <;> rcases pyQuote_cases s with h | h <;> rw [h] <;> decide
  read s _ c r _ _ := parseStrLit_repr printable s (c :: r)

theorem parseItem_itemText (printable : Nat → Bool) (n : Nat) (it : LitItem) (r : Str) :
    parseItem n (litItemText printable it ++ r) =
      match it with
      | .objects v => litMapFst .objects (parseSeq parseStrLit n (litNamesText printable v ++ r))
      | .properties v => litMapFst .properties (parseSeq parseStrLit n (litNamesText printable v ++ r))
      | .context v => litMapFst .context (parseSeq (parseSeq parseNatLit n) n
          (litSeqText '[' ']' (v.map pyReprIntTuple) ++ r))
      | .lattice v => litMapFst .lattice (parseSeq (parseEntry4 n) n
          (litSeqText '[' ']' (v.map pyReprEntry) ++ r)) := by
  -- the four keys that `parseItem` compares with, as characters
  have h := @parseItem.eq_1
  repeat rw [String.toList_ofList] at h
  obtain ⟨h1, h2, h3, h4⟩ := litKeys_eq
  cases it <;> simp only [litItemText, h1, h2, h3, h4] <;> rw [h] <;> rfl

/-- what `dump_file` writes for an empty names tuple cannot be read (`parseSeq_names_nil`) -/
def LitItem.Ok : LitItem → Prop
  | .objects v => v ≠ []
  | .properties v => v ≠ []
  | _ => True

theorem goodHead_itemText (printable : Nat → Bool) (it : LitItem) :
    GoodHead (litItemText printable it) := by
  obtain ⟨h1, h2, h3, h4⟩ := litKeys_eq
  cases it <;> simp only [litItemText, h1, h2, h3, h4] <;>
    exact goodHead_cons (by decide) (by decide)

theorem readsBack_item (printable : Nat → Bool) (n : Nat) :
    ReadsBack n (parseItem n) (litItemText printable) LitItem.Ok where
  head := goodHead_itemText printable
  read it hok c r hc hlen := by
    -- the value stands behind the key
    have hval : ∀ {k v : Str}, (k ++ v ++ c :: r).length ≤ n → (v ++ c :: r).length ≤ n := fun h => by
      simp only [List.length_append] at h ⊢; omega
    rw [parseItem_itemText]
    cases it <;> dsimp only
    case objects v => rw [(readsBack_str printable n).names.read v hok c r hc (hval hlen)]; rfl
    case properties v => rw [(readsBack_str printable n).names.read v hok c r hc (hval hlen)]; rfl
    case context v =>
      rw [(readsBack_intTuple n).list.read v (fun _ _ => trivial) c r hc (hval hlen)]; rfl
    case lattice v =>
      rw [(readsBack_entry n).list.read v (fun _ _ => trivial) c r hc (hval hlen)]; rfl

/-- an empty names tuple is written as `(⏎    ,⏎  )`, which is a syntax error -/
theorem parseSeq_names_nil (printable : Nat → Bool) (n : Nat) (r : Str) :
    parseSeq parseStrLit n (litNamesText printable [] ++ r) = none := by
  have h : litSeqLoop parseStrLit ')' n (['\n', ' ', ' ', ' ', ' '] ++ ([','] ++ '\n' :: ' ' :: ' ' ::
      ')' :: r)) = none := by
    rw [litSeqLoop_ws (by decide)]
    exact litSeqLoop_fail (.inl rfl) (goodHead_cons (by decide) (by decide)) rfl n
  simp only [litSeqText, List.map_nil, joinWith, List.flatMap_cons, List.flatMap_nil,
    List.append_nil, List.cons_append, List.nil_append, parseSeq, beq_self_eq_true, if_true] at h ⊢
  rw [h]

theorem parseItem_names_nil (printable : Nat → Bool) (n : Nat) (it : LitItem) (r : Str) (h : ¬ it.Ok) :
    parseItem n (litItemText printable it ++ r) = none := by
  rw [parseItem_itemText]
  cases it <;> dsimp only
  case objects v => rw [not_not.mp h, parseSeq_names_nil]; rfl
  case properties v => rw [not_not.mp h, parseSeq_names_nil]; rfl
  all_goals exact absurd trivial h

theorem litItems_fold (d : LitDoc) : ((litItems d).foldl LitAcc.add {}).finish = some d := by
  obtain ⟨o, p, c, l⟩ := d
  cases l <;> rfl

theorem loadLiteral_brace (s : Str) :
    loadLiteral ('{' :: s) =
      match litSeqLoop (parseItem (s.length + 1)) '}' (s.length + 1) s with
      | none => none
      | some (items, _, r') =>
        if (litSkipWs r').isEmpty then (items.foldl LitAcc.add {}).finish else none :=
  rfl

theorem litSeqLoop_dumped (printable : Nat → Bool) {n : Nat} (its : List LitItem) (tl : Str)
    (hok : ∀ it ∈ its, it.Ok)
    (hlen : ('\n' :: (its.flatMap (fun it => [' ', ' '] ++ (litItemText printable it ++ ',' :: ['\n'])) ++
      tl)).length ≤ n) :
    ∃ g, tl.length ≤ g ∧ litSeqLoop (parseItem n) '}' n ('\n' ::
        (its.flatMap (fun it => [' ', ' '] ++ (litItemText printable it ++ ',' :: ['\n'])) ++ tl)) =
      (litSeqLoop (parseItem n) '}' g tl).map fun x => (its ++ x.1, x.2) := by
  obtain ⟨g, h1, h3⟩ := (readsBack_item printable n).loop_items (close := '}') (.inr (.inr rfl))
    (w := [' ', ' ']) (w' := ['\n']) (by decide) (by decide) its hok tl (Nat.le_of_succ_le hlen)
  exact ⟨g, h1, (litSeqLoop_ws (w := ['\n']) (by decide) n _).trans h3⟩

/-- any items, in any order: a later item replaces an earlier one with the same key, a missing key
is found by `finish` -/
theorem loadLiteral_docText (printable : Nat → Bool) (its : List LitItem) (hok : ∀ it ∈ its, it.Ok) :
    loadLiteral (litDocText printable its) = (its.foldl LitAcc.add {}).finish := by
  rw [litDocText, loadLiteral_brace]
  obtain ⟨g, h1, h3⟩ := litSeqLoop_dumped printable its ['}', '\n'] hok (Nat.le_succ _)
  obtain ⟨g, rfl⟩ := fuel_eq_succ (a := []) h1
  rw [h3, litSeqLoop_close (.inr (.inr rfl))]
  simp only [Option.map_some, List.append_nil]
  rfl

theorem loadLiteral_docText_rejected (printable : Nat → Bool) (pre : List LitItem) (it : LitItem)
    (post : List LitItem) (hpre : ∀ x ∈ pre, x.Ok) (hit : ¬ it.Ok) :
    loadLiteral (litDocText printable (pre ++ it :: post)) = none := by
  rw [litDocText, loadLiteral_brace, List.flatMap_append, List.append_assoc]
  obtain ⟨g, -, h3⟩ := litSeqLoop_dumped printable pre _ hpre (Nat.le_succ _)
  rw [h3, List.flatMap_cons, List.append_assoc, List.append_assoc, litSeqLoop_ws (by decide),
    List.append_assoc, litSeqLoop_fail (.inr (.inr rfl)) (goodHead_itemText printable it)
      (parseItem_names_nil printable _ it _ hit)]
  rfl

theorem nl_not_mem_join {α : Type} {pr : α → Str} (h : ∀ v, '\n' ∉ pr v) (vs : List α) :
    '\n' ∉ joinWith [',', ' '] (vs.map pr) :=
  not_mem_joinWith (by decide) (List.forall_mem_map.2 fun v _ => h v)

theorem nl_not_mem_pyTuple {α : Type} {pr : α → Str} (h : ∀ v, '\n' ∉ pr v) (l : List α) :
    '\n' ∉ pyTuple pr l := by
  match l with
  | [] => exact (by decide : '\n' ∉ ['(', ')'])
  | [a] =>
    simp only [pyTuple, List.mem_cons, List.mem_append, List.not_mem_nil, or_false, not_or]
    exact ⟨by decide, h a, by decide, by decide⟩
  | a :: b :: l =>
    simp only [pyTuple, List.mem_cons, List.mem_append, List.not_mem_nil, or_false, not_or]
    exact ⟨by decide, nl_not_mem_join h _, by decide⟩

theorem nl_not_mem_intTuple (l : List Nat) : '\n' ∉ pyReprIntTuple l :=
  pyReprIntTuple_eq ▸ nl_not_mem_pyTuple nl_not_mem_toString l

theorem nl_not_mem_entry : ∀ e : LitEntry4, '\n' ∉ pyReprEntry e
  | (a, b, c, d) => nl_not_mem_pyTuple nl_not_mem_intTuple [a, b, c, d]

theorem nl_not_mem_section {key : Str} {o c : Char} {lines : List Str} (hk : '\n' ∉ key)
    (ho : '\n' ≠ o) (hc : '\n' ≠ c) (hl : ∀ l ∈ lines, '\n' ∉ l) :
    ∀ l ∈ litSection key o c (litItemLines lines), '\n' ∉ l := by
  intro l hl'
  simp only [litSection, litItemLines, List.mem_cons, List.mem_append, List.mem_map,
    List.not_mem_nil, or_false] at hl'
  rcases hl' with rfl | ⟨x, hx, rfl⟩ | rfl
  · simp only [List.mem_append, List.mem_cons, List.not_mem_nil, or_false, not_or]
    exact ⟨⟨⟨by decide, by decide⟩, hk⟩, by decide, by decide, ho⟩
  · simp only [List.mem_append, List.mem_cons, List.not_mem_nil, or_false, not_or]
    exact ⟨⟨⟨by decide, by decide, by decide, by decide⟩, hl x hx⟩, by decide⟩
  · simp only [List.mem_cons, List.not_mem_nil, or_false, not_or]
    exact ⟨by decide, by decide, hc, by decide⟩

theorem nl_not_mem_itemSection (p : Nat → Bool) (it : LitItem) :
    ∀ l ∈ litItemSection p it, '\n' ∉ l := by
  have hnames (names : List Str) : ∀ l ∈ [joinWith [',', ' '] (names.map (pyReprStr p))], '\n' ∉ l :=
    List.forall_mem_singleton.2 (nl_not_mem_join (nl_not_mem_reprStr p) names)
  obtain ⟨h1, h2, h3, h4⟩ := litKeys_eq
  cases it with
  | objects v =>
    exact nl_not_mem_section (by rw [h1]; decide) (by decide) (by decide) (hnames v)
  | properties v =>
    exact nl_not_mem_section (by rw [h2]; decide) (by decide) (by decide) (hnames v)
  | context v =>
    exact nl_not_mem_section (by rw [h3]; decide) (by decide) (by decide)
      (List.forall_mem_map.2 fun x _ => nl_not_mem_intTuple x)
  | lattice v =>
    exact nl_not_mem_section (by rw [h4]; decide) (by decide) (by decide)
      (List.forall_mem_map.2 fun x _ => nl_not_mem_entry x)

theorem dumpLiteralLines_no_nl (p : Nat → Bool) (d : LitDoc) :
    ∀ l ∈ dumpLiteralLines p d, '\n' ∉ l := by
  intro l hl
  simp only [dumpLiteralLines_eq, List.mem_cons, List.mem_append, List.mem_flatMap,
    List.not_mem_nil, or_false] at hl
  rcases hl with rfl | ⟨it, -, hl⟩ | rfl
  · decide
  · exact nl_not_mem_itemSection p it l hl
  · decide

theorem dumpLiteralLines_context (printable : Nat → Bool) (d : LitDoc) :
    ∃ pre post, pre.length = 7 ∧ dumpLiteralLines printable d =
      pre ++ ("  'context': [".toList :: ((d.context.map fun row =>
        "    ".toList ++ pyReprIntTuple row ++ [',']) ++ ("  ],".toList :: post))) := by
  obtain ⟨o, p, c, l⟩ := d
  refine ⟨['{'] :: (litItemSection printable (.objects o) ++ litItemSection printable (.properties p)),
    (match l with
     | none => []
     | some l => litItemSection printable (.lattice l)) ++ [['}']], rfl, ?_⟩
  obtain ⟨-, -, h3, -⟩ := litKeys_eq
  rw [dumpLiteralLines_eq]
  repeat rw [String.toList_ofList]
  cases l <;>
  · simp only [litItems, litItemSection, litListSection, litSection, litItemLines, List.flatMap_cons,
      List.flatMap_nil, List.map_map, List.append_assoc, List.cons_append, List.nil_append,
      List.append_nil]
    rw [h3]
    rfl

end FCA
