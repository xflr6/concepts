import FCA.Proofs.FormatsCsv
/-
`loadCsvE` (with sniffing of the symbol set) inverts `dumpCsv` for both symbol sets, and more
generally loads every RFC 4180 rendering of the table of a context.
-/
namespace FCA

/-- cell text of a flag for the two csv symbol sets -/
def csym (asInt b : Bool) : Str :=
  if asInt then (if b then ['1'] else ['0']) else (if b then ['X'] else [])

/-- the csv table of a context: header (empty corner field, properties), one record per object -/
def csvTable (asInt : Bool) (objects properties : List Str) (bools : List (List Bool)) :
    List (List Str) :=
  ([] :: properties) :: (objects.zip bools).map fun x => x.1 :: x.2.map (csym asInt)

theorem csvTable_ne_nil {asInt : Bool} {objects properties : List Str} {bools : List (List Bool)} :
    ∀ r ∈ csvTable asInt objects properties bools, r ≠ [] := by
  intro r hr
  simp only [csvTable, List.mem_cons, List.mem_map] at hr
  rcases hr with rfl | ⟨x, _, rfl⟩ <;> exact List.cons_ne_nil _ _

theorem dumpCsv_eq (asInt : Bool) (objects properties : List Str) (bools : List (List Bool)) :
    dumpCsv asInt objects properties bools =
      (csvTable asInt objects properties bools).flatMap csvRow := by
  rw [csvTable, List.flatMap_cons, List.flatMap_map]
  rfl

theorem csvValue_csym (a b : Bool) : csvValue a (csym a b) = some b := by
  cases a <;> cases b <;> decide

theorem csvValue_row (a : Bool) (row : List Bool) :
    (row.map (csym a)).map (csvValue a) = row.map some := by
  rw [List.map_map]
  apply List.map_congr_left
  intro b _
  exact csvValue_csym a b

/-- what the sniffing of the first data row yields: the symbol set of the writer, or, when there
is no property (so no cell at all), one that decodes the cells as well -/
theorem csv_sniff (asInt : Bool) {properties : List Str} {r1 : List Bool} {rs : List (List Bool)}
    (hrow : ∀ r ∈ r1 :: rs, r.length = properties.length) :
    ∃ a', (if ((r1.map (csym asInt)).all fun s => s == [] || s == ['X']) = true then some false
        else if ((r1.map (csym asInt)).all fun s => s == ['0'] || s == ['1']) = true then some true
        else none) = some a' ∧
      ∀ row ∈ r1 :: rs, (row.map (csym asInt)).map (csvValue a') = row.map some := by
  have hall : ∀ (p : Str → Bool), (∀ b, p (csym asInt b) = true) →
      ((r1.map (csym asInt)).all p) = true := fun p hp => by
    rw [List.all_eq_true]
    exact List.forall_mem_map.2 fun b _ => hp b
  cases asInt
  · exact ⟨false, if_pos (hall _ fun b => by cases b <;> decide), fun row _ => csvValue_row _ row⟩
  · cases r1 with
    | nil =>
      refine ⟨false, rfl, fun row hr => ?_⟩
      have : row = [] := List.eq_nil_of_length_eq_zero (by rw [hrow row hr, ← hrow [] (by simp)]; rfl)
      subst this; rfl
    | cons b bs =>
      refine ⟨true, ?_, fun row _ => csvValue_row _ row⟩
      rw [if_neg, if_pos (hall _ fun b => by cases b <;> decide)]
      rw [List.map_cons, List.all_cons]
      cases b <;> simp [csym]

theorem csvLoop_table (asInt a' bad : Bool) (objects : List Str) (bools : List (List Bool))
    (hlen : bools.length = objects.length)
    (hval : ∀ row ∈ bools, (row.map (csym asInt)).map (csvValue a') = row.map some)
    (more : List (List Str)) :
    csvLoop a' bad (((objects.zip bools).map fun x => x.1 :: x.2.map (csym asInt)) ++ more) =
      match csvLoop a' bad more with
      | .ok (os, bs) => .ok (objects ++ os, bools ++ bs)
      | .error e => .error e := by
  obtain ⟨xs, rfl, rfl, hzip⟩ := exists_rows hlen
  rw [hzip]
  rw [List.forall_mem_map] at hval
  clear hzip hlen
  induction xs with
  | nil => change csvLoop a' bad more = _; rcases csvLoop a' bad more with e | ⟨os, bs⟩ <;> rfl
  | cons x xs ih =>
    have hr := hval x (by simp)
    have h2 : ((x.2.map (csym asInt)).map fun s => (csvValue a' s).getD false) = x.2 := by
      have := congrArg (List.map (·.getD false)) hr
      simpa [List.map_map, Function.comp_def] using this
    rw [List.map_cons, List.cons_append, csvLoop, hr, if_pos (by simp),
      ih fun y hy => hval y (by simp [hy]), h2]
    rcases csvLoop a' bad more with e | ⟨os', bs'⟩ <;> rfl

theorem loadCsvE_of_read (asInt : Bool) {o1 : Str} {os properties : List Str} {r1 : List Bool}
    {rs : List (List Bool)} (hlen : (r1 :: rs).length = (o1 :: os).length)
    (hrow : ∀ r ∈ r1 :: rs, r.length = properties.length) {text : Str} {more : List (List Str)}
    {bad : Bool}
    (hread : csvRead text = (csvTable asInt (o1 :: os) properties (r1 :: rs) ++ more, bad)) :
    ∃ a', loadCsvE text =
      match csvLoop a' bad more with
      | .ok (os', bs) => .ok (o1 :: os ++ os', properties, r1 :: rs ++ bs)
      | .error e => .error e := by
  obtain ⟨a', hsn, hval⟩ := csv_sniff asInt hrow
  have hloop := csvLoop_table asInt a' bad (o1 :: os) (r1 :: rs) hlen hval more
  rw [List.zip_cons_cons, List.map_cons, List.cons_append] at hloop
  refine ⟨a', ?_⟩
  unfold loadCsvE
  rw [hread, csvTable, List.zip_cons_cons, List.map_cons, List.cons_append, List.cons_append]
  dsimp only
  rw [hsn]
  dsimp only
  rw [hloop]
  rcases csvLoop a' bad more with e | ⟨os', bs'⟩ <;> rfl

theorem loadCsvE_table (asInt : Bool) {objects properties : List Str} {bools : List (List Bool)}
    (hone : objects ≠ []) (hlen : bools.length = objects.length)
    (hrow : ∀ r ∈ bools, r.length = properties.length) {text : Str}
    (hread : csvRead text = (csvTable asInt objects properties bools, false)) :
    loadCsvE text = .ok (objects, properties, bools) := by
  obtain ⟨o1, os, rfl⟩ := List.exists_cons_of_ne_nil hone
  obtain ⟨r1, rs, rfl⟩ := List.exists_cons_of_ne_nil (List.ne_nil_of_length_eq_add_one hlen)
  obtain ⟨a', h⟩ := loadCsvE_of_read asInt hlen hrow (more := []) (by rw [hread, List.append_nil])
  rw [h]
  simp [csvLoop]

theorem loadCsvE_table_blank (asInt : Bool) {objects properties : List Str}
    {bools : List (List Bool)} (hlen : bools.length = objects.length)
    (hrow : ∀ r ∈ bools, r.length = properties.length) {text : Str} {more : List (List Str)}
    {bad : Bool}
    (hread : csvRead text = (csvTable asInt objects properties bools ++ [] :: more, bad)) :
    loadCsvE text = .error "ValueError" := by
  cases objects with
  | nil =>
    obtain rfl := List.eq_nil_of_length_eq_zero hlen
    unfold loadCsvE
    rw [hread]
    rfl
  | cons o1 os =>
    obtain ⟨r1, rs, rfl⟩ := List.exists_cons_of_ne_nil (List.ne_nil_of_length_eq_add_one hlen)
    obtain ⟨a', h⟩ := loadCsvE_of_read asInt hlen hrow hread
    rw [h]
    rfl

theorem csvTable_limit (asInt : Bool) {objects properties : List Str} {bools : List (List Bool)}
    (hol : ∀ o ∈ objects, o.length ≤ csvFieldLimit)
    (hpl : ∀ p ∈ properties, p.length ≤ csvFieldLimit) :
    ∀ r ∈ csvTable asInt objects properties bools, ∀ f ∈ r, f.length ≤ csvFieldLimit := by
  intro r hr f hf
  simp only [csvTable, List.mem_cons, List.mem_map] at hr
  rcases hr with rfl | ⟨x, hx, rfl⟩
  · rcases List.mem_cons.1 hf with rfl | hf
    · simp
    · exact hpl f hf
  · rcases List.mem_cons.1 hf with rfl | hf
    · exact hol _ (List.of_mem_zip hx).1
    · simp only [List.mem_map] at hf
      obtain ⟨b, _, rfl⟩ := hf
      cases asInt <;> cases b <;> decide

/-- `marked` is the csv table of the context with a quoting choice for every field and a
terminator choice for every record, such that every record can be written -/
def CsvRendering (asInt : Bool) (objects properties : List Str) (bools : List (List Bool))
    (marked : List (Bool × List (Bool × Str))) : Prop :=
  (marked.map fun r => r.2.map (·.2)) = csvTable asInt objects properties bools ∧
    ∀ r ∈ marked, CsvRowOk r.2

instance (asInt : Bool) (o p : List Str) (b : List (List Bool))
    (marked : List (Bool × List (Bool × Str))) : Decidable (CsvRendering asInt o p b marked) := by
  unfold CsvRendering; infer_instance

theorem CsvRendering.limit {asInt : Bool} {objects properties : List Str} {bools : List (List Bool)}
    {marked : List (Bool × List (Bool × Str))} (h : CsvRendering asInt objects properties bools marked)
    (hol : ∀ o ∈ objects, o.length ≤ csvFieldLimit)
    (hpl : ∀ p ∈ properties, p.length ≤ csvFieldLimit) :
    ∀ r ∈ marked, ∀ f ∈ r.2, f.2.length ≤ csvFieldLimit := by
  intro r hr f hf
  apply csvTable_limit asInt hol hpl (r.2.map (·.2))
  · rw [← h.1]; exact List.mem_map_of_mem (f := fun r : Bool × List (Bool × Str) => r.2.map (·.2)) hr
  · exact List.mem_map_of_mem (f := fun f : Bool × Str => f.2) hf

theorem csvRendering_dump (asInt : Bool) (objects properties : List Str) (bools : List (List Bool)) :
    CsvRendering asInt objects properties bools
      ((csvTable asInt objects properties bools).map fun r => (true, csvMarks r)) ∧
    dumpCsv asInt objects properties bools =
      csvTextQ ((csvTable asInt objects properties bools).map fun r => (true, csvMarks r)) := by
  refine ⟨⟨?_, ?_⟩, ?_⟩
  · simp [List.map_map, Function.comp_def, csvMarks_snd]
  · intro r hr
    simp only [List.mem_map] at hr
    obtain ⟨x, hx, rfl⟩ := hr
    exact csvMarks_ok (csvTable_ne_nil x hx)
  · rw [dumpCsv_eq, csvText_eq]

theorem loadCsvE_rendering (asInt : Bool) {objects properties : List Str} {bools : List (List Bool)}
    (hone : objects ≠ []) (hlen : bools.length = objects.length)
    (hrow : ∀ r ∈ bools, r.length = properties.length)
    (hol : ∀ o ∈ objects, o.length ≤ csvFieldLimit)
    (hpl : ∀ p ∈ properties, p.length ≤ csvFieldLimit)
    {marked : List (Bool × List (Bool × Str))}
    (hm : CsvRendering asInt objects properties bools marked) :
    loadCsvE (csvTextQ marked) = .ok (objects, properties, bools) := by
  apply loadCsvE_table asInt hone hlen hrow
  rw [csvRead_textQ marked hm.2 (hm.limit hol hpl), hm.1]

theorem loadCsvE_dumpCsv (asInt : Bool) {objects properties : List Str} {bools : List (List Bool)}
    (hone : objects ≠ []) (hlen : bools.length = objects.length)
    (hrow : ∀ r ∈ bools, r.length = properties.length)
    (hol : ∀ o ∈ objects, o.length ≤ csvFieldLimit)
    (hpl : ∀ p ∈ properties, p.length ≤ csvFieldLimit) :
    loadCsvE (dumpCsv asInt objects properties bools) = .ok (objects, properties, bools) := by
  obtain ⟨hm, he⟩ := csvRendering_dump asInt objects properties bools
  rw [he]
  exact loadCsvE_rendering asInt hone hlen hrow hol hpl hm

theorem loadCsvE_rendering_blank (asInt : Bool) {objects properties : List Str}
    {bools : List (List Bool)} (hlen : bools.length = objects.length)
    (hrow : ∀ r ∈ bools, r.length = properties.length)
    (hol : ∀ o ∈ objects, o.length ≤ csvFieldLimit)
    (hpl : ∀ p ∈ properties, p.length ≤ csvFieldLimit)
    {marked : List (Bool × List (Bool × Str))}
    (hm : CsvRendering asInt objects properties bools marked) (crlf : Bool) (rest : Str) :
    loadCsvE (csvTextQ marked ++ (csvTerm crlf ++ rest)) = .error "ValueError" := by
  apply loadCsvE_table_blank asInt hlen hrow (more := (csvRead rest).1) (bad := (csvRead rest).2)
  rw [csvRead_textQ_append marked hm.2 (hm.limit hol hpl), hm.1, csvRead_blank]

theorem loadCsvE_rendering_open (asInt : Bool) {objects properties : List Str}
    {bools : List (List Bool)} (hone : objects ≠ []) (hlen : bools.length = objects.length)
    (hrow : ∀ r ∈ bools, r.length = properties.length)
    (hol : ∀ o ∈ objects, o.length ≤ csvFieldLimit)
    (hpl : ∀ p ∈ properties, p.length ≤ csvFieldLimit)
    {init : List (Bool × List (Bool × Str))} {t : Bool} {last : List (Bool × Str)}
    (hm : CsvRendering asInt objects properties bools (init ++ [(t, last)])) :
    loadCsvE (csvTextQ init ++ csvBodyQ last) = .ok (objects, properties, bools) := by
  apply loadCsvE_table asInt hone hlen hrow
  have hlim := hm.limit hol hpl
  rw [csvRead_textQ_open init last (fun r hr => hm.2 r (by simp [hr])) (fun r hr => hlim r (by simp [hr]))
    (hm.2 (t, last) (by simp)) (hlim (t, last) (by simp)), ← hm.1]
  simp

theorem loadCsvE_object_too_long (asInt : Bool) {o1 : Str} {os properties : List Str}
    {r1 : List Bool} {rs : List (List Bool)} (hpl : ∀ p ∈ properties, p.length ≤ csvFieldLimit)
    (ho : csvFieldLimit < o1.length) :
    loadCsvE (dumpCsv asInt (o1 :: os) properties (r1 :: rs)) = .error "Error" := by
  obtain ⟨tail, htail⟩ := csvRow_cons_ne o1 (r1.map (csym asInt))
  have hread : csvRead (dumpCsv asInt (o1 :: os) properties (r1 :: rs)) =
      ([[] :: properties], true) := by
    rw [dumpCsv_eq, csvTable, List.zip_cons_cons, List.map_cons, List.flatMap_cons,
      List.flatMap_cons, htail, List.append_assoc, ← List.flatMap_singleton (f := csvRow),
      csvRead_rows_append _ (by simp)
        (List.forall_mem_singleton.2 (List.forall_mem_cons.2 ⟨Nat.zero_le _, hpl⟩)),
      csvRead_field_too_long false o1 ho]
    rfl
  unfold loadCsvE
  rw [hread]
  rfl

end FCA
