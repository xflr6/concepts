import Mathlib.Data.List.Count
import FCA.Model.Lattice
import FCA.Proofs.ListAux
/-
The heap merge `iterunion` (`algorithms/common.py`) over an abstract `key` / `next`, and `tools.maximal` (`maximalBy`).
-/
namespace FCA.C09

/-- reflexive-transitive reachability along `next` -/
inductive Reach (next : Nat → List Nat) : Nat → Nat → Prop
  | refl (a) : Reach next a a
  | step {a d x} : d ∈ next a → Reach next d x → Reach next a x

theorem Reach.trans {next : Nat → List Nat} {a b c : Nat} (h1 : Reach next a b) (h2 : Reach next b c) :
    Reach next a c := by
  induction h1 with
  | refl => exact h2
  | step hd _ ih => exact Reach.step hd (ih h2)

theorem Reach.single {next : Nat → List Nat} {a d : Nat} (h : d ∈ next a) : Reach next a d :=
  Reach.step h (Reach.refl _)

theorem Reach.snoc {next : Nat → List Nat} {a d x : Nat} (h1 : Reach next a d) (h2 : x ∈ next d) :
    Reach next a x := h1.trans (Reach.single h2)

variable (key : Nat → Nat) (next : Nat → List Nat) (seeds : List Nat)

def R (x : Nat) : Prop := ∃ s ∈ seeds, Reach next s x

theorem R_congr {seeds seeds' : List Nat} (h : ∀ x, x ∈ seeds ↔ x ∈ seeds') (x : Nat) :
    R next seeds x ↔ R next seeds' x := by
  unfold R
  constructor
  · rintro ⟨s, hs, hr⟩; exact ⟨s, (h s).mp hs, hr⟩
  · rintro ⟨s, hs, hr⟩; exact ⟨s, (h s).mpr hs, hr⟩

theorem R_trans {next : Nat → List Nat} {seeds : List Nat} {a x : Nat} (ha : R next seeds a) (h : Reach next a x) :
    R next seeds x := by
  obtain ⟨s, hs, hsa⟩ := ha
  exact ⟨s, hs, hsa.trans h⟩

/-- what `iterunion` requires of its arguments -/
structure Hyp (N D : Nat) : Prop where
  inj : ∀ x y, R next seeds x → R next seeds y → key x = key y → x = y
  mono : ∀ x, R next seeds x → ∀ d ∈ next x, key x < key d
  bound : ∀ x, R next seeds x → key x < N
  deg : ∀ x, R next seeds x → (next x).length ≤ D

theorem Hyp.congr {key : Nat → Nat} {next : Nat → List Nat} {seeds seeds' : List Nat} {N D : Nat}
    (H : Hyp key next seeds N D) (h : ∀ x, x ∈ seeds ↔ x ∈ seeds') : Hyp key next seeds' N D where
  inj := fun x y hx hy => H.inj x y ((R_congr next h x).mpr hx) ((R_congr next h y).mpr hy)
  mono := fun x hx => H.mono x ((R_congr next h x).mpr hx)
  bound := fun x hx => H.bound x ((R_congr next h x).mpr hx)
  deg := fun x hx => H.deg x ((R_congr next h x).mpr hx)

/-- `seed` / `front` make heap ∪ acc a frontier: whatever is reachable and not yet emitted has an ancestor on the heap
(`frontier`), so the popped minimum is the unemitted reachable element of least key; `gt` with `seen` = last emitted
key + 1 is why a popped `c` with `key c < seen` is a repeat and is skipped. -/
structure Inv (heap : List Nat) (seen : Nat) (acc : List Nat) : Prop where
  seed : ∀ s ∈ seeds, s ∈ acc ∨ s ∈ heap
  front : ∀ a ∈ acc, ∀ d ∈ next a, d ∈ acc ∨ d ∈ heap
  heapR : ∀ h ∈ heap, R next seeds h
  accR : ∀ a ∈ acc, R next seeds a ∧ key a < seen
  gt : ∀ x, R next seeds x → x ∈ acc ∨ seen ≤ key x
  sorted : acc.Pairwise (fun a b => key b < key a)

variable {key next seeds}

theorem reach_key_le {N D : Nat} (H : Hyp key next seeds N D) {a x : Nat} (h : Reach next a x) :
    R next seeds a → key a ≤ key x := by
  induction h with
  | refl a => intro _; exact le_rfl
  | step hd _ ih =>
    intro ha
    have hRd := R_trans ha (Reach.single hd)
    exact le_trans (le_of_lt (H.mono _ ha _ hd)) (ih hRd)

theorem frontier {heap : List Nat} {seen : Nat} {acc : List Nat}
    (I : Inv key next seeds heap seen acc) {x : Nat} (hx : R next seeds x) (hxa : x ∉ acc) :
    ∃ h ∈ heap, Reach next h x := by
  obtain ⟨s, hs, hsx⟩ := hx
  have key_lemma : ∀ a y, Reach next a y → y ∉ acc → (a ∈ acc ∨ a ∈ heap) →
      ∃ h ∈ heap, Reach next h y := by
    intro a y hay
    induction hay with
    | refl a =>
      intro hya h
      rcases h with h | h
      · exact absurd h hya
      · exact ⟨a, h, Reach.refl _⟩
    | step hd hdx ih =>
      intro hya h
      rcases h with h | h
      · exact ih hya (I.front _ h _ hd)
      · exact ⟨_, h, Reach.step hd hdx⟩
  exact key_lemma s x hsx hxa (I.seed s hs)

theorem inv_init : Inv key next seeds seeds 0 [] where
  seed := fun _ hs => Or.inr hs
  front := fun _ ha => nomatch ha
  heapR := fun h hh => ⟨h, hh, Reach.refl _⟩
  accR := fun _ ha => nomatch ha
  gt := fun _ _ => Or.inr (Nat.zero_le _)
  sorted := List.Pairwise.nil

theorem inv_emit {N D : Nat} (H : Hyp key next seeds N D) {heap : List Nat} {seen : Nat} {acc : List Nat} {c : Nat}
    (I : Inv key next seeds heap seen acc) (hc : c ∈ heap) (hmin : ∀ x ∈ heap, key c ≤ key x)
    (hgt : key c ≥ seen) :
    Inv key next seeds (heap.erase c ++ next c) (key c + 1) (c :: acc) := by
  have keep : ∀ y, y ∈ acc ∨ y ∈ heap → y ∈ c :: acc ∨ y ∈ heap.erase c ++ next c := by
    rintro y (h | h)
    · exact Or.inl (List.mem_cons_of_mem _ h)
    · by_cases e : y = c
      · exact Or.inl (e ▸ List.mem_cons_self)
      · exact Or.inr (List.mem_append_left _ ((List.mem_erase_of_ne e).mpr h))
  have hRc := I.heapR c hc
  constructor
  · exact fun s hs => keep s (I.seed s hs)
  · intro a ha d hd
    rcases List.mem_cons.mp ha with rfl | ha
    · exact Or.inr (List.mem_append_right _ hd)
    · exact keep d (I.front a ha d hd)
  · intro h hh
    rcases List.mem_append.mp hh with hh | hh
    · exact I.heapR h (List.mem_of_mem_erase hh)
    · exact R_trans hRc (Reach.single hh)
  · intro a ha
    rcases List.mem_cons.mp ha with rfl | ha
    · exact ⟨hRc, Nat.lt_succ_self _⟩
    · exact ⟨(I.accR a ha).1, lt_of_lt_of_le (I.accR a ha).2 (Nat.le_succ_of_le hgt)⟩
  · intro x hx
    by_cases hxa : x ∈ acc
    · exact Or.inl (List.mem_cons_of_mem _ hxa)
    · obtain ⟨h, hh, hhx⟩ := frontier I hx hxa
      have h1 : key c ≤ key h := hmin h hh
      have h2 : key h ≤ key x := reach_key_le H hhx (I.heapR h hh)
      by_cases heq : key x = key c
      · left; rw [H.inj x c hx hRc heq]; simp
      · exact Or.inr (Nat.succ_le_of_lt (lt_of_le_of_ne (h1.trans h2) (Ne.symm heq)))
  · refine List.Pairwise.cons ?_ I.sorted
    exact fun a ha => lt_of_lt_of_le (I.accR a ha).2 hgt

theorem inv_skip {heap : List Nat} {seen : Nat} {acc : List Nat} {c : Nat}
    (I : Inv key next seeds heap seen acc) (hc : c ∈ heap)
    (hle : ¬ key c ≥ seen) :
    Inv key next seeds (heap.erase c) seen acc := by
  have hcacc : c ∈ acc := (I.gt c (I.heapR c hc)).resolve_right hle
  have keep : ∀ y, y ∈ acc ∨ y ∈ heap → y ∈ acc ∨ y ∈ heap.erase c := by
    rintro y (h | h)
    · exact Or.inl h
    · by_cases e : y = c
      · exact Or.inl (e ▸ hcacc)
      · exact Or.inr ((List.mem_erase_of_ne e).mpr h)
  constructor
  · exact fun s hs => keep s (I.seed s hs)
  · exact fun a ha d hd => keep d (I.front a ha d hd)
  · exact fun h hh => I.heapR h (List.mem_of_mem_erase hh)
  · exact I.accR
  · exact I.gt
  · exact I.sorted

/-- emitting `c`: one admissible key value fewer pays for the at most `D` entries pushed -/
theorem pot_emit {N D e n seen k fuel : Nat} (hd : n ≤ D) (hb : k < N) (hge : seen ≤ k)
    (hpot : e + 1 + D * (N - seen) < fuel + 1) : e + n + D * (N - (k + 1)) < fuel := by
  have : D * (N - (k + 1)) + D ≤ D * (N - seen) := by
    rw [← Nat.mul_succ]
    exact Nat.mul_le_mul_left D (Nat.sub_lt_sub_left (Nat.lt_of_le_of_lt hge hb) (Nat.lt_succ_of_le hge))
  omega

theorem loop_correct {N D : Nat} (H : Hyp key next seeds N D) :
    ∀ (fuel : Nat) (heap : List Nat) (seen : Nat) (acc : List Nat),
      -- the potential: pending heap entries plus `D` for every key value still admissible
      Inv key next seeds heap seen acc → heap.length + D * (N - seen) < fuel →
      (iterunionLoop key next fuel heap seen acc).Pairwise (fun a b => key a < key b) ∧
      ∀ x, x ∈ iterunionLoop key next fuel heap seen acc ↔ R next seeds x := by
  intro fuel
  induction fuel with
  | zero => exact fun _ _ _ _ h => absurd h (Nat.not_lt_zero _)
  | succ fuel ih =>
    intro heap seen acc I hpot
    unfold iterunionLoop
    rcases minBy_spec key heap with ⟨rfl, hnone⟩ | ⟨c, hsome, hc, hmin⟩
    · simp only [hnone]
      refine ⟨List.pairwise_reverse.mpr I.sorted, fun x => ?_⟩
      rw [List.mem_reverse]
      refine ⟨fun hx => (I.accR x hx).1, fun hx => ?_⟩
      by_contra hxa
      obtain ⟨h, hh, _⟩ := frontier I hx hxa
      exact List.not_mem_nil hh
    · simp only [hsome]
      rw [← List.length_erase_add_one hc] at hpot
      by_cases hge : key c ≥ seen
      · rw [if_pos hge]
        refine ih _ _ _ (inv_emit H I hc hmin hge) ?_
        rw [List.length_append]
        exact pot_emit (H.deg c (I.heapR c hc)) (H.bound c (I.heapR c hc)) hge hpot
      · rw [if_neg hge]
        refine ih _ _ _ (inv_skip I hc hge) ?_
        omega

variable (key next seeds)

theorem iterunion_correct {N D : Nat} (H : Hyp key next seeds N D) (fuel : Nat)
    (hf : seeds.length + D * N < fuel) :
    (iterunion key next fuel seeds).Pairwise (fun a b => key a < key b) ∧
    ∀ x, x ∈ iterunion key next fuel seeds ↔ R next seeds x :=
  loop_correct H fuel seeds 0 [] inv_init (by rwa [Nat.sub_zero])

/-! ### `tools.maximal` -/

section maximal
variable (cmp : Nat → Nat → Bool)

theorem mem_maximalBy (l : List Nat) (x : Nat) :
    x ∈ maximalBy cmp l ↔ x ∈ l ∧ ∀ y ∈ l, y ≠ x → cmp x y = false := by
  unfold maximalBy
  simp only
  split
  · rename_i hlen
    rw [List.mem_eraseDups]
    exact ⟨fun hx => ⟨hx, fun y hy hne => absurd
      (eq_of_mem_of_length_lt_two hlen (List.mem_eraseDups.mpr hy) (List.mem_eraseDups.mpr hx)) hne⟩, And.left⟩
  · rw [List.mem_filter, List.mem_eraseDups]
    simp only [Bool.not_eq_eq_eq_not, Bool.not_true, List.any_eq_false, List.mem_eraseDups,
      Bool.and_eq_true, bne_iff_ne, ne_eq, not_and, Bool.not_eq_true]

theorem maximalBy_nodup (l : List Nat) : (maximalBy cmp l).Nodup := by
  unfold maximalBy
  simp only
  split
  · exact nodup_eraseDups l
  · exact (nodup_eraseDups l).filter _

theorem maximalBy_nil : maximalBy cmp [] = [] := by
  simp [maximalBy]

theorem maximalBy_sub {cmp} {l : List Nat} {x : Nat} (h : x ∈ maximalBy cmp l) : x ∈ l :=
  ((mem_maximalBy cmp l x).mp h).1

theorem countP_lt_of_imp {p q : Nat → Bool} {s : List Nat} (himp : ∀ z ∈ s, p z = true → q z = true)
    {y : Nat} (hy : y ∈ s) (hq : q y = true) (hp : p y = false) : s.countP p < s.countP q := by
  -- among the elements satisfying `q`, `p` misses `y`
  have h1 : s.countP p = (s.filter q).countP p := by
    rw [List.countP_filter]
    exact List.countP_congr fun z hz => ⟨fun h => by rw [h, himp z hz h]; rfl, fun h => (Bool.and_eq_true _ _ ▸ h).1⟩
  rw [h1, List.countP_eq_length_filter (p := q), List.countP_lt_length_iff]
  exact ⟨y, List.mem_filter.mpr ⟨hy, hq⟩, hp⟩

/-- `cmp x y` reads "`x` is properly above `y`" -/
theorem maximalBy_dominates {l : List Nat} (hirr : ∀ x ∈ l, cmp x x = false)
    (htr : ∀ x ∈ l, ∀ y ∈ l, ∀ z ∈ l, cmp x y = true → cmp y z = true → cmp x z = true) :
    ∀ x ∈ l, ∃ m ∈ maximalBy cmp l, m = x ∨ cmp x m = true := by
  -- `l.countP (cmp x)` falls from `x` to a `y` below it: what `y` is above, `x` is above too (transitivity), and `x` is
  -- above `y` while `y` is not above itself
  have main : ∀ (n x : Nat), l.countP (cmp x) = n → x ∈ l → ∃ m ∈ maximalBy cmp l, m = x ∨ cmp x m = true := by
    intro n
    induction n using Nat.strong_induction_on with
    | _ n ih =>
      intro x hn hx
      by_cases hmax : ∀ y ∈ l, y ≠ x → cmp x y = false
      · exact ⟨x, (mem_maximalBy cmp l x).mpr ⟨hx, hmax⟩, Or.inl rfl⟩
      · push Not at hmax
        obtain ⟨y, hy, _, hxy⟩ := hmax
        have hxy : cmp x y = true := by simpa using hxy
        have hlt : l.countP (cmp y) < l.countP (cmp x) :=
          countP_lt_of_imp (fun z hz hyz => htr x hx y hy z hz hxy hyz) hy hxy (hirr y hy)
        obtain ⟨m, hm, hym⟩ := ih _ (hn ▸ hlt) y rfl hy
        refine ⟨m, hm, Or.inr ?_⟩
        rcases hym with rfl | hym
        · exact hxy
        · exact htr x hx y hy m (maximalBy_sub hm) hxy hym
  exact fun x hx => main _ x rfl hx

variable {cmp}

/-- `lt x y` reads "`y` is properly beyond `x`"; the two seed reductions are the instances "the extent of `y` is properly
below (above) that of `x`" -/
theorem mem_maximalBy_of_strictOrder {lt : Nat → Nat → Prop}
    (hc : ∀ x y, cmp x y = true ↔ lt x y) (irr : ∀ x, ¬ lt x x) (l : List Nat) (x : Nat) :
    x ∈ maximalBy cmp l ↔ x ∈ l ∧ ∀ y ∈ l, ¬ lt x y := by
  rw [mem_maximalBy]
  refine and_congr_right fun _ => forall₂_congr fun y _ => ?_
  rw [← hc, Bool.not_eq_true]
  exact ⟨fun h => (eq_or_ne y x).elim (fun e => by rw [e, ← Bool.not_eq_true, hc]; exact irr x) h, fun h _ => h⟩

theorem maximalBy_exists_iff {lt : Nat → Nat → Prop}
    (hc : ∀ x y, cmp x y = true ↔ lt x y) (irr : ∀ x, ¬ lt x x) (tr : ∀ {x y z}, lt x y → lt y z → lt x z)
    (l : List Nat) {Q : Nat → Prop} (hQ : ∀ {x m}, lt x m → Q x → Q m) :
    (∃ m ∈ maximalBy cmp l, Q m) ↔ ∃ c ∈ l, Q c := by
  refine ⟨fun ⟨m, hm, h⟩ => ⟨m, maximalBy_sub hm, h⟩, fun ⟨c, hcl, h⟩ => ?_⟩
  obtain ⟨m, hm, hmc⟩ := maximalBy_dominates cmp (fun x _ => by rw [← Bool.not_eq_true, hc]; exact irr x)
    (fun x _ y _ z _ h1 h2 => (hc x z).mpr (tr ((hc x y).mp h1) ((hc y z).mp h2))) c hcl
  exact ⟨m, hm, hmc.elim (fun e => e ▸ h) fun hlt => hQ ((hc c m).mp hlt) h⟩

theorem maximalBy_singleton (c : Nat) : maximalBy cmp [c] = [c] := by
  simp [maximalBy, List.eraseDups_cons]

end maximal

end FCA.C09
