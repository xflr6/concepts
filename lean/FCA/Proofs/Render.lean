import FCA.Model.Render
import FCA.Proofs.Junctors
import FCA.Proofs.FormatsStr
/-
C16, printing (`relToString`): the common width, the lines, and that no kind contains a line break.
-/
namespace FCA

theorem le_relWidth (names : Nat → Str) {items : List RelItem} {r : RelItem} (hr : r ∈ items) :
    (names r.left).length ≤ relWidth names items :=
  foldl_max_ge (fun r => (names r.left).length) items 0 hr

theorem relWidth_attained (names : Nat → Str) (items : List RelItem) :
    (items = [] ∧ relWidth names items = 0) ∨
      ∃ r ∈ items, relWidth names items = (names r.left).length := by
  rcases (le_foldl_max_iff _ items 0 _).mp (le_refl (relWidth names items)) with h | ⟨r, hr, h⟩
  · cases items with
    | nil => exact .inl ⟨rfl, rfl⟩
    | cons y ys => exact .inr ⟨y, List.mem_cons_self, le_antisymm (h.trans (Nat.zero_le _)) (le_relWidth names List.mem_cons_self)⟩
  · exact .inr ⟨r, hr, le_antisymm h (le_relWidth names hr)⟩

theorem not_mem_relLine {c : Char} (hc : c ≠ ' ') {names : Nat → Str} {w : Nat} {r : RelItem}
    (hl : c ∉ names r.left) (hk : c ∉ r.kind.toList) (hr : ∀ p, r.right = some p → c ∉ names p) :
    c ∉ relLine names w r := by
  unfold relLine relRight
  simp only [List.mem_append, List.mem_singleton, not_or]
  refine ⟨⟨⟨⟨not_mem_ljust hc hl, hc⟩, not_mem_ljust hc hk⟩, hc⟩, ?_⟩
  cases h : r.right with
  | none => simp
  | some p => exact hr p h

theorem mem_relKept {b : Bool} {items : List RelItem} {r : RelItem} :
    r ∈ relKept b items ↔ r ∈ items ∧ (b = true → r.kind ≠ "orthogonal") := by
  unfold relKept
  cases b <;> simp

theorem nl_not_mem_kindOfCode (c : Nat) : '\n' ∉ (kindOfCode c).toList := by
  unfold kindOfCode; split <;> rw [String.toList_ofList] <;> decide

theorem nl_not_mem_unaryKind (c : Nat) : '\n' ∉ (unaryKind c).toList := by
  unfold unaryKind; split <;> rw [String.toList_ofList] <;> decide

end FCA
