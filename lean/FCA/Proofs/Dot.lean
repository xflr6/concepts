import FCA.Proofs.Labels
import FCA.Model.Misc
/-
`visualize.lattice` of the model (`dotItems`): the statements emitted for one concept (`block` = its node, its labels,
its edges), and membership, distinctness and counting in the whole list for a lattice satisfying `LatticeSpec`.
-/
namespace FCA.C20

deriving instance ReflBEq, LawfulBEq for DotItem

/-- the label statements of one concept: the non-empty ones of its two labels -/
def labels (c : LConcept) : List DotItem :=
  (if c.objects.isEmpty then [] else [DotItem.objectLabel c.index c.objects]) ++
  (if c.properties.isEmpty then [] else [DotItem.propertyLabel c.index c.properties])

/-- the statements `visualize.lattice` emits for one concept -/
def block (c : LConcept) : List DotItem :=
  .node c.index :: (labels c ++ (sortBy id c.lower).map (DotItem.edge c.index))

theorem dotItems_eq (L : Lattice) : dotItems L = L.flatMap block := rfl

/-- the node a statement is attached to (tail node of an edge) -/
def src : DotItem → Nat
  | .node k => k
  | .objectLabel k _ => k
  | .propertyLabel k _ => k
  | .edge k _ => k

/-- the (tail, head) pair of a proper edge statement -/
def edgeOf : DotItem → Option (Nat × Nat)
  | .edge k j => some (k, j)
  | .node _ => none
  | .objectLabel _ _ => none
  | .propertyLabel _ _ => none

def isEdge : DotItem → Bool
  | .edge _ _ => true
  | .node _ => false
  | .objectLabel _ _ => false
  | .propertyLabel _ _ => false

def isNode : DotItem → Bool
  | .node _ => true
  | .edge _ _ => false
  | .objectLabel _ _ => false
  | .propertyLabel _ _ => false

/-- the (tail, head) pairs of the proper edge statements, in emission order -/
def edgePairs (L : Lattice) : List (Nat × Nat) := (dotItems L).filterMap edgeOf

/-- the covering pairs of extents drawn by the edges -/
def coverPairs (L : Lattice) : List (Nat × Nat) := (edgePairs L).map (fun p => (L.extentAt p.2, L.extentAt p.1))

theorem mem_block {c : LConcept} {x : DotItem} : x ∈ block c ↔
    x = .node c.index ∨ (c.objects ≠ [] ∧ x = .objectLabel c.index c.objects) ∨
    (c.properties ≠ [] ∧ x = .propertyLabel c.index c.properties) ∨ ∃ j ∈ c.lower, .edge c.index j = x := by
  simp only [block, labels, List.mem_cons, List.mem_append, List.not_mem_nil, or_false, List.mem_ite_nil_left, List.mem_map, mem_sortBy,
    List.isEmpty_iff, or_assoc, ne_eq]

theorem src_of_mem_block {c : LConcept} {x : DotItem} (h : x ∈ block c) : src x = c.index := by
  rcases mem_block.mp h with rfl | ⟨_, rfl⟩ | ⟨_, rfl⟩ | ⟨j, _, rfl⟩ <;> rfl

/-- whatever the guards say, the labels are taken from these two: facts about `block` that do not depend on the guards
follow without a case split -/
theorem labels_sublist (c : LConcept) :
    (labels c).Sublist [.objectLabel c.index c.objects, .propertyLabel c.index c.properties] := by
  unfold labels
  split <;> split <;> simp

theorem block_nodup {c : LConcept} (h : c.lower.Nodup) : (block c).Nodup := by
  have he : ((sortBy id c.lower).map (DotItem.edge c.index)).Nodup :=
    (sortBy_nodup id h).map (fun a b hab => by injection hab)
  refine List.Nodup.sublist (((labels_sublist c).append_right _).cons_cons _) ?_
  simp [he]

theorem edgePairs_block (c : LConcept) :
    (block c).filterMap edgeOf = (sortBy id c.lower).map (fun j => (c.index, j)) := by
  rw [block, List.filterMap_cons_none rfl, List.filterMap_append,
    List.eq_nil_of_sublist_nil ((labels_sublist c).filterMap edgeOf), List.nil_append, List.filterMap_map]
  exact congrFun List.filterMap_eq_map _

theorem length_filterMap_edgeOf (l : List DotItem) : (l.filterMap edgeOf).length = l.countP isEdge := by
  rw [List.length_filterMap_eq_countP]
  congr 1
  funext a
  cases a <;> rfl

theorem countP_isEdge_block (c : LConcept) : (block c).countP isEdge = c.lower.length := by
  rw [← length_filterMap_edgeOf, edgePairs_block, List.length_map, (sortBy_perm id c.lower).length_eq]

theorem countP_isNode_block (c : LConcept) : (block c).countP isNode = 1 := by
  rw [block, List.countP_cons_of_pos rfl, List.countP_append, List.countP_map,
    Nat.le_zero.mp ((labels_sublist c).countP_le (p := isNode)), Nat.zero_add]
  exact congrArg (· + 1) (congrFun List.countP_false (sortBy id c.lower))

theorem edgeOf_eq_some {x : DotItem} {p : Nat × Nat} : edgeOf x = some p ↔ x = .edge p.1 p.2 := by
  cases x <;> simp [edgeOf, Prod.ext_iff, eq_comm]

theorem mem_filterMap_edgeOf {l : List DotItem} {k j : Nat} : (k, j) ∈ l.filterMap edgeOf ↔ DotItem.edge k j ∈ l := by
  simp only [List.mem_filterMap, edgeOf_eq_some, exists_eq_right]

theorem nodup_filterMap_edgeOf {l : List DotItem} (h : l.Nodup) : (l.filterMap edgeOf).Nodup :=
  h.filterMap fun _ _ _ hb hb' => (edgeOf_eq_some.mp hb).trans (edgeOf_eq_some.mp hb').symm

theorem countP_isEdge (L : Lattice) : (dotItems L).countP isEdge = (L.map (·.lower.length)).sum := by
  rw [dotItems_eq, List.countP_flatMap, Function.comp_def]
  exact congrArg List.sum (List.map_congr_left fun c _ => countP_isEdge_block c)

theorem countP_isNode (L : Lattice) : (dotItems L).countP isNode = L.length := by
  rw [dotItems_eq, List.countP_flatMap, Function.comp_def, List.map_congr_left fun c _ => countP_isNode_block c]
  simp

theorem edgePairs_eq (L : Lattice) :
    edgePairs L = L.flatMap (fun c => (sortBy id c.lower).map (fun j => (c.index, j))) := by
  unfold edgePairs
  rw [dotItems_eq, List.filterMap_flatMap]
  congr 1
  funext c
  exact edgePairs_block c

theorem edgePairs_length (L : Lattice) : (edgePairs L).length = (dotItems L).countP isEdge :=
  length_filterMap_edgeOf _

theorem coverPairs_length (L : Lattice) : (coverPairs L).length = (dotItems L).countP isEdge :=
  (List.length_map _).trans (edgePairs_length L)

section spec
variable {K : Ctx} {L : Lattice}

theorem dot_nodup (S : LatticeSpec K L) : (dotItems L).Nodup := by
  rw [dotItems_eq, List.nodup_flatMap]
  refine ⟨fun c hc => block_nodup (S.lower_nodup (S.get_index hc)), S.index_pairwise_lt.imp fun {c d} hlt => ?_⟩
  -- the statements of different concepts are attached to different nodes
  show List.Disjoint (block c) (block d)
  exact fun x hx hy => Nat.ne_of_lt hlt ((src_of_mem_block hx).symm.trans (src_of_mem_block hy))

theorem mem_dot_src (S : LatticeSpec K L) {x : DotItem} :
    x ∈ dotItems L ↔ ∃ c, L[src x]? = some c ∧ x ∈ block c := by
  rw [dotItems_eq, List.mem_flatMap]
  constructor
  · rintro ⟨c, hc, hx⟩
    exact ⟨c, src_of_mem_block hx ▸ S.get_index hc, hx⟩
  · rintro ⟨c, hc, hx⟩
    exact ⟨c, List.mem_of_getElem? hc, hx⟩

theorem mem_node (S : LatticeSpec K L) (k : Nat) : DotItem.node k ∈ dotItems L ↔ k < L.length := by
  rw [mem_dot_src S]
  constructor
  · rintro ⟨c, hc, _⟩; exact lt_of_get hc
  · intro hk
    exact ⟨_, List.getElem?_eq_getElem hk, mem_block.mpr (Or.inl (by rw [S.index (List.getElem?_eq_getElem hk)]))⟩

theorem mem_edge (S : LatticeSpec K L) (k j : Nat) :
    DotItem.edge k j ∈ dotItems L ↔ ∃ c, L[k]? = some c ∧ j ∈ c.lower := by
  rw [mem_dot_src S]
  exact exists_congr fun c => and_congr_right fun hc => by simp [mem_block, S.index hc, src]

theorem mem_olabel (S : LatticeSpec K L) (k : Nat) (os : List Nat) :
    DotItem.objectLabel k os ∈ dotItems L ↔ ∃ c, L[k]? = some c ∧ c.objects ≠ [] ∧ os = c.objects := by
  rw [mem_dot_src S]
  exact exists_congr fun c => and_congr_right fun hc => by simp [mem_block, S.index hc, src]

theorem mem_plabel (S : LatticeSpec K L) (k : Nat) (ps : List Nat) :
    DotItem.propertyLabel k ps ∈ dotItems L ↔ ∃ c, L[k]? = some c ∧ c.properties ≠ [] ∧ ps = c.properties := by
  rw [mem_dot_src S]
  exact exists_congr fun c => and_congr_right fun hc => by simp [mem_block, S.index hc, src]

theorem lower_iff_covers (S : LatticeSpec K L) (k j : Nat) :
    (∃ c, L[k]? = some c ∧ j ∈ c.lower) ↔
      ∃ c d, L[k]? = some c ∧ L[j]? = some d ∧ covers K d.extent c.extent := by
  constructor
  · rintro ⟨c, hc, hj⟩
    obtain ⟨d, hd, hcv⟩ := S.lower_get hc hj
    exact ⟨c, d, hc, hd, hcv⟩
  · rintro ⟨c, d, hc, hd, hcv⟩
    exact ⟨c, hc, (S.mem_lower_iff hc j).mpr ⟨d, hd, hcv⟩⟩

theorem mem_edgePairs_iff (S : LatticeSpec K L) (k j : Nat) :
    (k, j) ∈ edgePairs L ↔ ∃ c d, L[k]? = some c ∧ L[j]? = some d ∧ covers K d.extent c.extent := by
  unfold edgePairs
  rw [mem_filterMap_edgeOf, mem_edge S, lower_iff_covers S]

theorem edgePairs_nodup (S : LatticeSpec K L) : (edgePairs L).Nodup := nodup_filterMap_edgeOf (dot_nodup S)

theorem edgePairs_sorted (S : LatticeSpec K L) :
    (edgePairs L).Pairwise (fun p q => p.1 < q.1 ∨ (p.1 = q.1 ∧ p.2 < q.2)) := by
  rw [edgePairs_eq, List.pairwise_flatMap]
  refine ⟨fun c hc => ?_, S.index_pairwise_lt.imp ?_⟩
  · obtain ⟨k, hk⟩ := List.getElem?_of_mem hc
    rw [List.pairwise_map]
    have := sortBy_strict id (S.lower_nodup hk) (fun a _ b _ h => h)
    exact this.imp (fun h => Or.inr ⟨rfl, h⟩)
  · intro c d hlt x hx y hy
    obtain ⟨_, _, rfl⟩ := List.mem_map.mp hx
    obtain ⟨_, _, rfl⟩ := List.mem_map.mp hy
    exact Or.inl hlt

theorem mem_coverPairs (S : LatticeSpec K L) (G D : Nat) :
    (G, D) ∈ coverPairs L ↔ closedObj K G ∧ covers K G D := by
  unfold coverPairs
  rw [List.mem_map]
  constructor
  · rintro ⟨⟨k, j⟩, hm, he⟩
    obtain ⟨c, d, hc, hd, hcv⟩ := (mem_edgePairs_iff S k j).mp hm
    simp only [Prod.mk.injEq] at he
    rw [← he.1, ← he.2, Lattice.extentAt_get hc, Lattice.extentAt_get hd]
    exact ⟨S.closed hd, hcv⟩
  · rintro ⟨hG, hcv⟩
    obtain ⟨j, d, _, hd, rfl⟩ := S.find_of_closed hG
    obtain ⟨k, c, _, hc, rfl⟩ := S.find_of_closed hcv.1
    refine ⟨(k, j), (mem_edgePairs_iff S k j).mpr ⟨c, d, hc, hd, hcv⟩, ?_⟩
    simp only [Lattice.extentAt_get hc, Lattice.extentAt_get hd]

theorem coverPairs_nodup (S : LatticeSpec K L) : (coverPairs L).Nodup := by
  unfold coverPairs
  refine List.Nodup.map_on ?_ (edgePairs_nodup S)
  rintro ⟨k, j⟩ hp ⟨k', j'⟩ hq he
  obtain ⟨c, d, hc, hd, _⟩ := (mem_edgePairs_iff S k j).mp hp
  obtain ⟨c', d', hc', hd', _⟩ := (mem_edgePairs_iff S k' j').mp hq
  simp only [Prod.mk.injEq, Lattice.extentAt_get hc, Lattice.extentAt_get hd, Lattice.extentAt_get hc', Lattice.extentAt_get hd'] at he
  rw [S.pos_inj hc hc' he.2, S.pos_inj hd hd' he.1]

end spec

/-! `mk` is `objectLabel` or `propertyLabel`, `hmem` its membership lemma (`mem_olabel`, `mem_plabel`) -/
section label
variable {K : Ctx} {L : Lattice} {w : Nat} {g : Nat → Nat} {f : LConcept → List Nat} {mk : Nat → List Nat → DotItem}
  (hmem : ∀ k xs, mk k xs ∈ dotItems L ↔ ∃ c, L[k]? = some c ∧ f c ≠ [] ∧ xs = f c)
include hmem

theorem label_eq {k : Nat} {c : LConcept} {xs : List Nat} (hc : L[k]? = some c) (h : mk k xs ∈ dotItems L) :
    xs = f c := by
  obtain ⟨c', hc', _, rfl⟩ := (hmem k xs).mp h
  rw [Option.some.inj (hc.symm.trans hc')]

theorem label_unique {k : Nat} {xs xs' : List Nat} (h : mk k xs ∈ dotItems L) (h' : mk k xs' ∈ dotItems L) :
    xs = xs' := by
  obtain ⟨c, hc, _, rfl⟩ := (hmem k xs).mp h
  exact (label_eq hmem hc h').symm

theorem label_content (H : C10.Labelling K L w g f) {k : Nat} {c : LConcept} (hc : L[k]? = some c) {xs : List Nat}
    (h : mk k xs ∈ dotItems L) : xs.Pairwise (· < ·) ∧ ∀ x, x ∈ xs ↔ x < w ∧ c.extent = g x := by
  rw [label_eq hmem hc h]
  exact ⟨H.sorted (List.mem_of_getElem? hc), fun x => H.mem (List.mem_of_getElem? hc)⟩

theorem label_cover (H : C10.Labelling K L w g f) {x : Nat} (hx : x < w) :
    ∃! k, ∃ xs, mk k xs ∈ dotItems L ∧ x ∈ xs := by
  obtain ⟨c, ⟨hc, hxc⟩, huniq⟩ := H.unique hx
  have hk := H.spec.get_index hc
  refine ⟨c.index, ⟨f c, (hmem _ _).mpr ⟨c, hk, List.ne_nil_of_mem hxc, rfl⟩, hxc⟩, ?_⟩
  rintro k' ⟨xs, h, hx'⟩
  obtain ⟨c', hc', _, rfl⟩ := (hmem k' xs).mp h
  rw [← huniq c' ⟨List.mem_of_getElem? hc', hx'⟩, H.spec.index hc']

end label

end FCA.C20
