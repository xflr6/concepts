-- root of the library: every model, proof and property module (regenerate with dev/mkroot.py)
import FCA.Model.Bits
import FCA.Model.Defn
import FCA.Model.DefnExtra
import FCA.Model.DefnHeap
import FCA.Model.Fcbo
import FCA.Model.FcboStack
import FCA.Model.Formats
import FCA.Model.Galois
import FCA.Model.Junctors
import FCA.Model.Lattice
import FCA.Model.Lindig
import FCA.Model.Misc
import FCA.Model.PyLiteral
import FCA.Model.Render
import FCA.Model.UniqueState
import FCA.Generated.Aggregate
import FCA.Generated.Annotate
import FCA.Generated.CxtLines
import FCA.Generated.Defn
import FCA.Generated.Derive
import FCA.Generated.Dot
import FCA.Generated.Extremes
import FCA.Generated.Fcbo
import FCA.Generated.Formats
import FCA.Generated.FromdictRow
import FCA.Generated.Getitem
import FCA.Generated.Iterunion
import FCA.Generated.Junctors
import FCA.Generated.Lindig
import FCA.Generated.LindigLattice
import FCA.Generated.Loops
import FCA.Generated.Minimize
import FCA.Generated.Predicates
import FCA.Generated.RelationsInit
import FCA.Generated.SortKeys
import FCA.Generated.TableDump
import FCA.Generated.Tolist
import FCA.Generated.Unique
import FCA.Generated.Validate
import FCA.Proofs.Assemble
import FCA.Proofs.Bits
import FCA.Proofs.Cbo
import FCA.Proofs.CboInst
import FCA.Proofs.Closure
import FCA.Proofs.Defn
import FCA.Proofs.DefnCtx
import FCA.Proofs.DefnDerive
import FCA.Proofs.DefnHeap
import FCA.Proofs.DefnInv
import FCA.Proofs.DefnOps
import FCA.Proofs.DefnSet
import FCA.Proofs.DefnTranspose
import FCA.Proofs.Dot
import FCA.Proofs.FcboInner
import FCA.Proofs.FcboStack
import FCA.Proofs.FormatsCsv
import FCA.Proofs.FormatsCsvLoad
import FCA.Proofs.FormatsCxt
import FCA.Proofs.FormatsFimi
import FCA.Proofs.FormatsStr
import FCA.Proofs.FormatsStrictCsv
import FCA.Proofs.FormatsStrictCxt
import FCA.Proofs.FormatsStrictTable
import FCA.Proofs.FormatsTable
import FCA.Proofs.FormatsTableAny
import FCA.Proofs.FormatsWiki
import FCA.Proofs.Galois
import FCA.Proofs.Invariance
import FCA.Proofs.InvarianceCtx
import FCA.Proofs.Iterunion
import FCA.Proofs.JoinMeet
import FCA.Proofs.Junctors
import FCA.Proofs.Keys
import FCA.Proofs.Labels
import FCA.Proofs.LatticeSpec
import FCA.Proofs.Lindig
import FCA.Proofs.LindigAbs
import FCA.Proofs.Link
import FCA.Proofs.ListAux
import FCA.Proofs.Members
import FCA.Proofs.Neighbors
import FCA.Proofs.OrderSpec
import FCA.Proofs.Powerset
import FCA.Proofs.PredNorm
import FCA.Proofs.Prelude
import FCA.Proofs.PyLiteralDoc
import FCA.Proofs.PyLiteralSeq
import FCA.Proofs.PyLiteralStr
import FCA.Proofs.Render
import FCA.Proofs.Stored
import FCA.Proofs.Traversal
import FCA.Proofs.Validate
import FCA.Props.C01
import FCA.Props.C01Gen
import FCA.Props.C02
import FCA.Props.C02Gen
import FCA.Props.C03
import FCA.Props.C03Gen
import FCA.Props.C04
import FCA.Props.C04Gen
import FCA.Props.C04Stack
import FCA.Props.C05
import FCA.Props.C05Gen
import FCA.Props.C06
import FCA.Props.C06Gen
import FCA.Props.C07
import FCA.Props.C07Gen
import FCA.Props.C08
import FCA.Props.C08Gen
import FCA.Props.C09
import FCA.Props.C09Gen
import FCA.Props.C10
import FCA.Props.C10Gen
import FCA.Props.C11
import FCA.Props.C11Gen
import FCA.Props.C12
import FCA.Props.C12Gen
import FCA.Props.C12Lit
import FCA.Props.C13
import FCA.Props.C13Gen
import FCA.Props.C14
import FCA.Props.C14Gen
import FCA.Props.C15
import FCA.Props.C15Gen
import FCA.Props.C16
import FCA.Props.C16Gen
import FCA.Props.C17
import FCA.Props.C17Gen
import FCA.Props.C18
import FCA.Props.C18Gen
import FCA.Props.C19
import FCA.Props.C19Gen
import FCA.Props.C20
import FCA.Props.C20Gen
